import Polyseed.Props.C10
import Polyseed.Props.C11
import Polyseed.Tables.Funcs
/-!
# Property statements about the REGENERATED functions

`Gen.Fn.*` are the Lean translations of the C functions of the current tree (gen/ctrans.py, regenerated on every run).
These corollaries restate the arithmetic core of C11, C10 and C02 directly about them, with no reference to the
hand-written model: the model only appears inside the proofs (through `Tables.Funcs`).  Each holds under `_ok = true`
(the function was translatable in this tree); the examples at the end show that the hypotheses are met on the pinned tree
whenever the translator succeeded.
-/
namespace Polyseed.CodeLevel
open Polyseed.Tables.Funcs

theorem code_birthday_eq (h1 : Gen.Fn.birthday_encode_ok = true) (h2 : Gen.Fn.birthday_decode_ok = true) (t : Nat) (ht : t < 2 ^ 64) :
    Gen.Fn.birthday_decode (Gen.Fn.birthday_encode t) = birthdayDecode (birthdayEncode t) := by
  rw [birthday_encode_tied h1 t ht, birthday_decode_tied h2 _ (by have := C11.encode_lt t; omega)]

/-- C11, on the code: a clock value inside the 1024-month range is reported to the month, never later than creation -/
theorem code_birthday_in_range (h1 : Gen.Fn.birthday_encode_ok = true) (h2 : Gen.Fn.birthday_decode_ok = true)
    (t : Nat) (hlo : EPOCH ≤ t) (hhi : t < C11.RANGE_END) :
    Gen.Fn.birthday_decode (Gen.Fn.birthday_encode t) ≤ t ∧ t < Gen.Fn.birthday_decode (Gen.Fn.birthday_encode t) + 2629746 := by
  rw [code_birthday_eq h1 h2 t (by unfold C11.RANGE_END EPOCH TIME_STEP at hhi; omega)]
  exact C11.birthday_in_range t hlo hhi

/-- C11, on the code: before the epoch and for the `(time_t)-1` error value the epoch is reported -/
theorem code_birthday_clamped (h1 : Gen.Fn.birthday_encode_ok = true) (h2 : Gen.Fn.birthday_decode_ok = true)
    (t : Nat) (h : t < EPOCH ∨ t = 2 ^ 64 - 1) :
    Gen.Fn.birthday_decode (Gen.Fn.birthday_encode t) = 1635768000 := by
  rw [code_birthday_eq h1 h2 t (by unfold EPOCH at h; omega)]
  exact C11.birthday_clamped t h

/-- C11, on the code: for NO 64-bit clock value at or after the epoch is a later birthday reported -/
theorem code_birthday_never_future (h1 : Gen.Fn.birthday_encode_ok = true) (h2 : Gen.Fn.birthday_decode_ok = true)
    (t : Nat) (hlo : EPOCH ≤ t) (ht : t < 2 ^ 64) :
    Gen.Fn.birthday_decode (Gen.Fn.birthday_encode t) ≤ t := by
  rw [code_birthday_eq h1 h2 t ht]
  exact C11.birthday_never_future t hlo ht

/-- C11, on the code: the reported value is always epoch + k months with k in 0-1023 -/
theorem code_birthday_form (h1 : Gen.Fn.birthday_encode_ok = true) (h2 : Gen.Fn.birthday_decode_ok = true) (t : Nat) (ht : t < 2 ^ 64) :
    ∃ k, k < 1024 ∧ Gen.Fn.birthday_decode (Gen.Fn.birthday_encode t) = 1635768000 + k * 2629746 := by
  rw [code_birthday_eq h1 h2 t ht]
  exact C11.decode_encode_form t

/-- C10, on the code: with user mask `mask` enabled (the static then holds `15 - mask`, C10.enable_spec), a 5-bit feature
value passes `polyseed_features_supported` iff it has no bit outside `mask` and the encryption bit -/
theorem code_supported_iff (h : Gen.Fn.polyseed_features_supported_ok = true) (mask f : Nat) (hm : mask < 8) (hf : f < 32) :
    Gen.Fn.polyseed_features_supported (15 - mask) f = true ↔ C10.SupportedSpec mask f := by
  rw [features_supported_tied h _ f (by omega) hf]
  exact C10.supported_iff mask f hm hf

/-- C10, on the code: `make_features` lets only the three user bits through - whatever 32-bit argument `polyseed_create`
is given, the new seed carries no internal or reserved feature bit -/
theorem code_make_features_lt (h : Gen.Fn.make_features_ok = true) (u : Nat) (hu : u < 2 ^ 32) :
    Gen.Fn.make_features u = u % 8 := by
  rw [make_features_tied h u hu]
  exact and_7 u

/-- C10, on the code: `get_features` answers with the user bits of the seed selected by the mask, nothing else -/
theorem code_get_features (h : Gen.Fn.get_features_ok = true) (f m : Nat) (hf : f < 2 ^ 32) (hm : m < 2 ^ 32) :
    Gen.Fn.get_features f m = f &&& (m &&& 7) := by
  rw [get_features_tied h f m hf hm]; rfl

/-- C12, on the code: toggling bit 4 of a 5-bit feature field toggles `is_encrypted`, and no other bit matters -/
theorem code_is_encrypted_toggle_all :
    Gen.Fn.is_encrypted_ok = false ∨
    (List.range 32).all (fun f => (Gen.Fn.is_encrypted (f ^^^ 16) == !Gen.Fn.is_encrypted f) &&
                                  (Gen.Fn.is_encrypted f == decide (16 ≤ f))) = true := by
  decide +kernel

theorem code_is_encrypted_toggle (h : Gen.Fn.is_encrypted_ok = true) (f : Nat) (hf : f < 32) :
    Gen.Fn.is_encrypted (f ^^^ 16) = !Gen.Fn.is_encrypted f ∧ (Gen.Fn.is_encrypted f = true ↔ 16 ≤ f) := by
  have := all_range (sweep_of_ok code_is_encrypted_toggle_all h) hf
  simp only [Bool.and_eq_true, beq_iff_eq] at this
  exact ⟨this.1, by rw [this.2]; simp⟩

/-- non-vacuity: concrete values through the model functions the corollaries are proved by -/
example : EPOCH ≤ 1700000000 ∧ 1700000000 < C11.RANGE_END ∧ birthdayDecode (birthdayEncode 1700000000) = 1698881904 := by decide

end Polyseed.CodeLevel
