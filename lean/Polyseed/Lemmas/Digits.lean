import Polyseed.Model.Spec
/-! Base-`b` digit lists (most significant first): `join ∘ split` and `split ∘ join`. Core Lean only. -/
namespace Polyseed
open Spec

theorem split_length (b k n : Nat) : (split b k n).length = k := by
  induction k with
  | zero => rfl
  | succ k ih => simp [split, ih]

theorem join_split (b : Nat) (hb : 0 < b) : ∀ k n, join b (split b k n) = n % b ^ k := by
  intro k
  induction k with
  | zero => intro n; simp [split, join, Nat.mod_one]
  | succ k ih =>
    intro n
    simp only [split, join, split_length, ih]
    rw [Nat.pow_succ, Nat.mod_mul, Nat.mul_comm, Nat.add_comm]

theorem split_lt (b : Nat) (hb : 0 < b) : ∀ k n, ∀ d ∈ split b k n, d < b := by
  intro k
  induction k with
  | zero => intro n d h; simp [split] at h
  | succ k ih =>
    intro n d h
    simp only [split, List.mem_cons] at h
    rcases h with h | h
    · subst h; exact Nat.mod_lt _ hb
    · exact ih n d h

theorem join_lt (b : Nat) : ∀ ds : List Nat, (∀ d ∈ ds, d < b) → join b ds < b ^ ds.length := by
  intro ds
  induction ds with
  | nil => intro _; simp [join]
  | cons d ds ih =>
    intro h
    obtain ⟨hd, hds⟩ := List.forall_mem_cons.mp h
    have := ih hds
    simp only [join, List.length_cons, Nat.pow_succ]
    calc d * b ^ ds.length + join b ds < d * b ^ ds.length + b ^ ds.length := by omega
      _ = (d + 1) * b ^ ds.length := by rw [Nat.add_mul, Nat.one_mul]
      _ ≤ b * b ^ ds.length := Nat.mul_le_mul_right _ hd
      _ = b ^ ds.length * b := Nat.mul_comm _ _

theorem split_mul_add (b : Nat) (hb : 0 < b) : ∀ k n m, split b k (m * b ^ k + n) = split b k n := by
  intro k
  induction k with
  | zero => intros; rfl
  | succ k ih =>
    intro n m
    simp only [split]
    congr 1
    · rw [Nat.pow_succ, show m * (b ^ k * b) + n = b ^ k * (m * b) + n by rw [Nat.mul_comm (b ^ k), ← Nat.mul_assoc, Nat.mul_comm],
        Nat.mul_add_div (Nat.pow_pos hb), Nat.add_comm, Nat.add_mul_mod_self_right]
    · rw [Nat.pow_succ, show m * (b ^ k * b) = m * b * b ^ k by rw [Nat.mul_assoc, Nat.mul_comm b]]; exact ih n (m * b)

theorem split_join (b : Nat) (hb : 0 < b) : ∀ ds : List Nat, (∀ d ∈ ds, d < b) → split b ds.length (join b ds) = ds := by
  intro ds
  induction ds with
  | nil => intro _; rfl
  | cons d ds ih =>
    intro h
    obtain ⟨hd, hds⟩ := List.forall_mem_cons.mp h
    simp only [List.length_cons, split, join]
    congr 1
    · rw [Nat.mul_comm, Nat.mul_add_div (Nat.pow_pos hb), Nat.div_eq_of_lt (join_lt b ds hds), Nat.add_zero, Nat.mod_eq_of_lt hd]
    · rw [split_mul_add b hb, ih hds]

/-- digits are determined by their value: `join b ds = n` is one linear equation where `split` divides `n` once per digit -/
theorem split_eq_of_join (b : Nat) (hb : 0 < b) (ds : List Nat) (n : Nat) (hd : ∀ d ∈ ds, d < b) (h : join b ds = n) :
    split b ds.length n = ds := by
  rw [← h]; exact split_join b hb ds hd

theorem foldl_join (b : Nat) (ds : List Nat) (a : Nat) :
    ds.foldl (fun a d => a * b + d) a = a * b ^ ds.length + join b ds := by
  induction ds generalizing a with
  | nil => simp [join]
  | cons d ds ih =>
    rw [List.foldl, ih, join, List.length_cons, Nat.pow_succ, Nat.add_mul, Nat.mul_assoc, Nat.mul_comm b, Nat.add_assoc]

theorem join_eq_foldl (b : Nat) (ds : List Nat) : join b ds = ds.foldl (fun a d => a * b + d) 0 := by
  rw [foldl_join, Nat.zero_mul, Nat.zero_add]

theorem join_append (b : Nat) (xs ys : List Nat) : join b (xs ++ ys) = join b xs * b ^ ys.length + join b ys := by
  rw [join_eq_foldl, List.foldl_append, foldl_join, ← join_eq_foldl]

end Polyseed
