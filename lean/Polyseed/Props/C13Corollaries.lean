import Polyseed.Props.C13Refine
import Polyseed.Props.C04
import Polyseed.Props.C05
/-!
# Properties read off the abstract model

With `C13R.run_refines` every statement about outputs can be made on `Model/Abstract.lean`, where a seed is three
numbers.  A few of the other properties, restated there, become short: the phrase round trip (C01), the image round trip
(C06), the password involution (C12), path independence of key derivation (C04).  They hold for the concrete model, and
through the correspondence for the code, because its outputs ARE the abstract ones.
-/
namespace Polyseed.C13R
open Polyseed.Spec Polyseed.C13

/-- a seed as the library can hold it -/
structure Abs.Seed.OK (x : Abs.Seed) : Prop where
  S_lt : x.S < 2 ^ 150
  B_lt : x.B < 1024
  F_lt : x.F < 32

/-- **C01 in the abstract model**: the 16 word indices of a seed for a coin stand for exactly that seed. -/
theorem abs_words_roundtrip (x : Abs.Seed) (h : Abs.Seed.OK x) (coin : Nat) :
    Abs.ofWords (indices x.S x.B x.F coin) coin = some x := by
  have hE : extraNat x.F x.B < 2 ^ 15 := by
    have := h.B_lt; have := h.F_lt; unfold extraNat; omega
  unfold indices
  have hl := coeffs_length x.S (extraNat x.F x.B)
  rcases hc : coeffs x.S (extraNat x.F x.B) with _ | ⟨c1, rest⟩
  · rw [hc] at hl; simp at hl
  · simp only [Abs.ofWords]
    rw [xor_xor_self, if_pos rfl, ← hc, unpack_coeffs _ _ h.S_lt hE]
    simp only
    have := h.B_lt
    have e1 : extraNat x.F x.B % 1024 = x.B := by unfold extraNat; omega
    have e2 : extraNat x.F x.B / 1024 = x.F := by unfold extraNat; omega
    rw [e1, e2]

theorem toAbs_concr (x : Abs.Seed) (h : Abs.Seed.OK x) : toAbs (concr ⟨x.S, x.B, x.F⟩) = x := by
  unfold toAbs
  simp only [concr]
  rw [secretNat_secretBytes _ h.S_lt]

/-- the canonical representation of an admissible abstract seed is a canonical seed object -/
theorem concr_canon (x : Abs.Seed) (h : Abs.Seed.OK x) : (concr ⟨x.S, x.B, x.F⟩).Canon := by
  have hwf : (concr ⟨x.S, x.B, x.F⟩).WF :=
    .of_bytes h.B_lt h.F_lt (evalX _).isLt (secretBytes_length _) (secretBytes_lt _) (secretBytes_top _)
  refine { toWF := hwf, checksum_ok := ?_ }
  rw [← check_eq _ hwf, toAbs_concr x h]
  rfl

/-- ... and for no other coin below 2048 (C05 in the abstract model), given that the check word is a field element -/
theorem abs_words_wrong_coin (x : Abs.Seed) (h : Abs.Seed.OK x) (a b : Nat) (hab : a ≠ b) (ha : a < 2048) (hb : b < 2048) :
    Abs.ofWords (indices x.S x.B x.F a) b = none := by
  have hd := concr_canon x h
  have hwf := hd.toWF
  -- the indices are those `polyseed_encode` uses for the canonical seed object of `x`: its polynomial with coin `a` on it
  have henc := encodeCoeffs_eq_indices (concr ⟨x.S, x.B, x.F⟩) hd a
  simp only [concr] at henc
  rw [secretNat_secretBytes _ h.S_lt] at henc
  rw [← henc]
  exact (ofWords_eq _ b (encodeCoeffs_length _ hwf a) (encodeCoeffs_lt _ hwf a ha) hb).2
    (C05.encodeCoeffs_wrong_coin _ hd a b ha hb hab)

/-- **C12 in the abstract model**: the same mask applied twice restores the seed -/
theorem abs_crypt_twice (S M F : Nat) : ((S ^^^ M) ^^^ M = S) ∧ ((F ^^^ 16) ^^^ 16 = F) :=
  ⟨xor_xor_self S M, xor_xor_self F 16⟩

/-- **C04 in the abstract model**: the KDF inputs are a function of (secret, birthday, features, coin) alone, and different
seeds or coins give different inputs -/
theorem abs_key_inputs_inj (x y : Abs.Seed) (hx : Abs.Seed.OK x) (hy : Abs.Seed.OK y) (c d : Nat) (hc : c < 2 ^ 32) (hd : d < 2 ^ 32)
    (h : Abs.keyPassword x = Abs.keyPassword y ∧ Abs.keySalt x c = Abs.keySalt y d) : x = y ∧ c = d := by
  obtain ⟨xS, xB, xF⟩ := x
  obtain ⟨yS, yB, yF⟩ := y
  obtain ⟨hp, hs⟩ := h
  have hS : xS = yS := by
    have := congrArg secretNat hp
    rwa [Abs.keyPassword, Abs.keyPassword, secretNat_secretBytes _ hx.S_lt, secretNat_secretBytes _ hy.S_lt] at this
  -- the salt is a fixed head, three LE32 fields (`Abs.le32` is `C04.le32`) and a fixed tail
  obtain ⟨h1, hF⟩ := List.append_inj' (List.append_cancel_right hs) rfl
  obtain ⟨h2, hB⟩ := List.append_inj' h1 rfl
  have hF : xF = yF := C04.le32_inj _ _ (Nat.lt_trans hx.F_lt (by decide)) (Nat.lt_trans hy.F_lt (by decide)) hF
  have hB : xB = yB := C04.le32_inj _ _ (Nat.lt_trans hx.B_lt (by decide)) (Nat.lt_trans hy.B_lt (by decide)) hB
  have hcd : c = d := C04.le32_inj _ _ hc hd (List.append_cancel_left h2)
  rw [hS, hB, hF, hcd]
  exact ⟨rfl, rfl⟩

/-- **C06 in the abstract model**: reading the published image of a seed gives back the seed and its check word -/
theorem abs_image_roundtrip (x : Abs.Seed) (h : Abs.Seed.OK x) : Abs.ofImage (Abs.storage x) = (x, Abs.check x) := by
  have hc := concr_canon x h
  have e := store_eq _ hc
  rw [toAbs_concr x h] at e
  rw [← e, ofImage_store _ hc.toWF, toAbs_concr x h]
  rfl

end Polyseed.C13R
