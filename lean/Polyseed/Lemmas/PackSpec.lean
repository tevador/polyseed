import Polyseed.Lemmas.Pack
import Polyseed.Lemmas.Digits
import Polyseed.Lemmas.Gf
import Polyseed.Lemmas.Api
import Polyseed.Lemmas.Canon
import Polyseed.Lemmas.Str
/-!
# Packing: the loops compute the published layout, and the round trips

A list of digits is determined by its value (`split_eq_of_join`).  So the arithmetic forms of `Lemmas/Pack` are
matched with `Spec.coeffs` and `Spec.secretBytes` by showing that the bytes and the ten-bit words carry the same
150-bit number, which `join_step` does 40 bits (five bytes, four words) at a time.  Then the round trips, and the check
word and the encoder's indices in the terms of the specification (`checkValue_eq_checkWord`, `encodeCoeffs_eq_indices`).
-/
namespace Polyseed
open Spec

theorem zip_div2 : ∀ (ss es : List Nat), ss.length = es.length → (∀ e ∈ es, e < 2) →
    (List.zipWith (fun s e => 2 * s + e) ss es).map (· / 2) = ss ∧
    (List.zipWith (fun s e => 2 * s + e) ss es).map (· % 2) = es := by
  intro ss
  induction ss with
  | nil => intro es h _; cases es with | nil => exact ⟨rfl, rfl⟩ | cons => simp at h
  | cons s ss ih =>
    intro es h he
    cases es with
    | nil => simp at h
    | cons e es =>
      have h1 : e < 2 := he e (by simp)
      have := ih es (by simpa using h) (fun x hx => he x (by simp [hx]))
      simp only [List.zipWith_cons_cons, List.map_cons, this.1, this.2]
      constructor <;> congr 1 <;> omega

theorem unpack_coeffs (S E : Nat) (hS : S < 2 ^ 150) (hE : E < 2 ^ 15) : unpack (coeffs S E) = (S, E) := by
  unfold unpack coeffs
  have hz := zip_div2 (split 1024 15 S) (split 2 15 E) (by simp [split_length]) (split_lt 2 (by omega) 15 E)
  rw [hz.1, hz.2, join_split 1024 (by omega), join_split 2 (by omega)]
  have h1 : (1024 : Nat) ^ 15 = 2 ^ 150 := by decide
  rw [h1, Nat.mod_eq_of_lt hS, Nat.mod_eq_of_lt hE]

theorem zip_recombine : ∀ cs : List Nat, List.zipWith (fun s e => 2 * s + e) (cs.map (· / 2)) (cs.map (· % 2)) = cs := by
  intro cs
  induction cs with
  | nil => rfl
  | cons c cs ih => simp only [List.map_cons, List.zipWith_cons_cons, ih]; congr 1; omega

theorem eq_coeffs (cs : List Nat) (S E : Nat) (h1 : cs.map (· / 2) = split 1024 15 S) (h2 : cs.map (· % 2) = split 2 15 E) :
    cs = coeffs S E := by
  rw [coeffs, ← h1, ← h2, zip_recombine]

theorem map_div2_lt {cs : List Nat} (h : Coeffs cs) : ∀ d ∈ cs.map (· / 2), d < 1024 :=
  List.forall_mem_map.2 fun c hc => by have := h c hc; omega

theorem map_mod2_lt (cs : List Nat) : ∀ d ∈ cs.map (· % 2), d < 2 :=
  List.forall_mem_map.2 fun c _ => Nat.mod_lt c (by decide)

theorem coeffs_unpack (cs : List Nat) (hlen : cs.length = 15) (h : Coeffs cs) :
    coeffs (unpack cs).1 (unpack cs).2 = cs := by
  have s1 := split_join 1024 (by omega) _ (map_div2_lt h)
  have s2 := split_join 2 (by omega) _ (map_mod2_lt cs)
  rw [List.length_map, hlen] at s1 s2
  exact (eq_coeffs cs _ _ s1.symm s2.symm).symm

theorem unpack_bounds (cs : List Nat) (hlen : cs.length = 15) (h : Coeffs cs) :
    (unpack cs).1 < 2 ^ 150 ∧ (unpack cs).2 < 2 ^ 15 := by
  have j1 := join_lt 1024 _ (map_div2_lt h)
  have j2 := join_lt 2 _ (map_mod2_lt cs)
  rw [List.length_map, hlen] at j1 j2
  exact ⟨by rw [show (2:Nat) ^ 150 = 1024 ^ 15 by decide]; exact j1, j2⟩

theorem coeffs_lt (S E : Nat) : Coeffs (coeffs S E) := by
  intro c hc
  unfold coeffs at hc
  obtain ⟨i, hi, rfl⟩ := List.getElem_of_mem hc
  simp only [List.getElem_zipWith]
  have a := split_lt 1024 (by omega) 15 S _ (List.getElem_mem (l := split 1024 15 S) (by simpa [split_length] using hi))
  have b := split_lt 2 (by omega) 15 E _ (List.getElem_mem (l := split 2 15 E) (by simpa [split_length] using hi))
  omega

theorem coeffs_length (S E : Nat) : (coeffs S E).length = 15 := by
  simp [coeffs, split_length]

theorem secretNat_lt (s : List Nat) (hlen : 18 ≤ s.length) (hb : ∀ b ∈ s, b < 256) : secretNat s < 2 ^ 150 := by
  have := join_lt 256 (s.take 18) (fun d hd => hb d (List.mem_of_mem_take hd))
  rw [List.length_take, Nat.min_eq_left hlen] at this
  rw [secretNat, show (2 : Nat) ^ 150 = 256 ^ 18 * 64 by decide]
  omega

theorem secretBytes_secretNat (s : List Nat) (hlen : 19 ≤ s.length) (hb : ∀ b ∈ s, b < 256) (h18 : s.getD 18 0 < 64) :
    secretBytes (secretNat s) = s.take 19 := by
  unfold secretBytes secretNat
  have e1 : (join 256 (s.take 18) * 64 + s.getD 18 0 % 64) / 64 = join 256 (s.take 18) := by omega
  have e2 : (join 256 (s.take 18) * 64 + s.getD 18 0 % 64) % 64 = s.getD 18 0 := by omega
  rw [e1, e2]
  have := split_join 256 (by omega) (s.take 18) (fun d hd => hb d (List.mem_of_mem_take hd))
  simp only [List.length_take, Nat.min_eq_left (show 18 ≤ s.length by omega)] at this
  rw [this]
  have : s.getD 18 0 = s[18] := by simp [List.getD, show 18 < s.length by omega]
  rw [this, ← List.take_succ_eq_append_getElem]

/-- a well-formed secret buffer is determined by its 150-bit value -/
theorem eq_secretBytes_pad (s : List Nat) (S : Nat) (hlen : s.length = 32) (hb : ∀ b ∈ s, b < 256) (h18 : s.getD 18 0 < 64)
    (hp : s.drop 19 = List.replicate 13 0) (hS : secretNat s = S) : s = secretBytes S ++ List.replicate 13 0 := by
  rw [← hS, secretBytes_secretNat s (by omega) hb h18, ← hp, List.take_append_drop]

theorem secretNat_secretBytes (S : Nat) (hS : S < 2 ^ 150) (rest : List Nat) : secretNat (secretBytes S ++ rest) = S := by
  unfold secretNat secretBytes
  have hl : (split 256 18 (S / 64)).length = 18 := split_length _ _ _
  rw [List.append_assoc, List.take_left' hl, join_split 256 (by omega)]
  have g : (split 256 18 (S / 64) ++ ([S % 64] ++ rest)).getD 18 0 = S % 64 := by
    simp [List.getD, hl]
  rw [g, Nat.mod_eq_of_lt (show S / 64 < 256 ^ 18 by rw [Nat.div_lt_iff_lt_mul (by decide)]; exact hS)]
  omega

theorem secretBytes_lt (S : Nat) : ∀ b ∈ secretBytes S, b < 256 := by
  intro b hb
  simp only [secretBytes, List.mem_append, List.mem_singleton] at hb
  rcases hb with hb | hb
  · exact split_lt 256 (by omega) 18 _ b hb
  · omega

theorem secretBytes_length (S : Nat) : (secretBytes S).length = 19 := by
  simp [secretBytes, split_length]

theorem secretBytes_top (S : Nat) : (secretBytes S).getD 18 0 < 64 := by
  simp only [secretBytes, List.getD, List.getElem?_append_right (Nat.le_of_eq (split_length 256 18 _)), split_length]
  exact Nat.mod_lt _ (by decide)

/-! ## five bytes hold four ten-bit words -/

/-- bytes against ten-bit words, 40 bits at a time; `t` holds the six bits below the last whole byte, whence `hl` -/
theorem join_step {y0 y1 y2 y3 y4 w0 w1 w2 w3 t : Nat} {ys ws : List Nat}
    (hg : join 256 [y0, y1, y2, y3, y4] = join 1024 [w0, w1, w2, w3])
    (hl : 8 * ys.length + 6 = 10 * ws.length) (h : join 256 ys * 64 + t = join 1024 ws) :
    join 256 (y0 :: y1 :: y2 :: y3 :: y4 :: ys) * 64 + t = join 1024 (w0 :: w1 :: w2 :: w3 :: ws) := by
  have hp : 256 ^ ys.length * 64 = 1024 ^ ws.length := by
    rw [show 256 = 2 ^ 8 from rfl, show 64 = 2 ^ 6 from rfl, show 1024 = 2 ^ 10 from rfl, ← Nat.pow_mul, ← Nat.pow_mul,
      ← Nat.pow_add, hl]
  show join 256 ([y0, y1, y2, y3, y4] ++ ys) * 64 + t = join 1024 ([w0, w1, w2, w3] ++ ws)
  rw [join_append, join_append, hg, Nat.add_mul, Nat.mul_assoc, hp, Nat.add_assoc, h]

theorem bytes5 {w0 w1 w2 w3 : Nat} (h0 : w0 < 1024) (h1 : w1 < 1024) (h2 : w2 < 1024) (h3 : w3 < 1024) :
    join 256 [w0 / 4 % 256, w0 % 4 * 64 % 256 + w1 / 16 % 64, w1 % 16 * 16 % 256 + w2 / 64 % 16,
      w2 % 64 * 4 % 256 + w3 / 256 % 4, w3 % 256] = join 1024 [w0, w1, w2, w3] := by
  simp only [join, List.length, Nat.reducePow, Nat.reduceAdd]
  omega

theorem words4 {y0 y1 y2 y3 y4 : Nat} (h0 : y0 < 256) (h1 : y1 < 256) (h2 : y2 < 256) (h3 : y3 < 256) (h4 : y4 < 256) :
    join 256 [y0, y1, y2, y3, y4] =
      join 1024 [y0 % 256 * 4 + y1 / 64 % 4, y1 % 64 * 16 + y2 / 16 % 16, y2 % 16 * 64 + y3 / 4 % 64, y3 % 4 * 256 + y4 % 256] := by
  simp only [join, List.length, Nat.reducePow, Nat.reduceAdd]
  omega

theorem mul_two_add_div (s x : Nat) : (s * 2 + x % 2) / 2 = s := by omega
theorem mul_two_add_mod (s x : Nat) : (s * 2 + x % 2) % 2 = x % 2 := by omega

/-- for every well-formed seed the packing loops produce exactly the published layout. -/
theorem dataToPoly_eq_spec (d : Data) (h : d.WF) :
    dataToPoly d = coeffs (secretNat d.secret) (extraNat d.features d.birthday) := by
  obtain ⟨bd, ft, sec, k⟩ := d
  obtain ⟨b0, b1, b2, b3, b4, b5, b6, b7, b8, b9, b10, b11, b12, b13, b14, b15, b16, b17, b18, rest, rfl⟩ :=
    exists19 sec h.secret_len_ge
  have hb := h.secret_bytes
  have hbd := h.birthday_lt
  simp only [List.forall_mem_cons] at hb
  rw [dataToPoly_arith]
  · refine eq_coeffs _ _ _ ?_ ?_ <;> simp only [List.map, mul_two_add_div, mul_two_add_mod]
    · refine (split_eq_of_join 1024 (by omega) _ _ ?_ ?_).symm
      · simp only [List.forall_mem_cons, List.not_mem_nil, false_imp_iff, implies_true, and_true]
        omega
      · simp only [secretNat, List.take, List.getD_cons_succ, List.getD_cons_zero]
        -- three groups of five bytes and four words; `tail` has three bytes, six bits and three words
        refine (join_step (words4 ?_ ?_ ?_ ?_ ?_) rfl (join_step (words4 ?_ ?_ ?_ ?_ ?_) rfl
          (join_step (words4 ?_ ?_ ?_ ?_ ?_) rfl ?tail))).symm
        case tail => simp only [join, List.length, Nat.reducePow, Nat.reduceAdd]; omega
        all_goals omega
    · rfl
  all_goals omega

theorem dataToPoly_length (d : Data) (h : d.WF) : (dataToPoly d).length = 15 := by
  rw [dataToPoly_eq_spec d h, coeffs_length]

theorem dataToPoly_lt (d : Data) (h : d.WF) : Coeffs (dataToPoly d) := by
  rw [dataToPoly_eq_spec d h]; exact coeffs_lt _ _

theorem checkValue_lt (d : Data) (h : d.WF) : checkValue d < 2048 :=
  polyEval_lt _ (List.forall_mem_cons.mpr ⟨by decide, dataToPoly_lt d h⟩)

/-- `polyseed_poly_to_data` reads the published layout back (16 field elements). -/
theorem polyToData_eq_spec (k : Nat) (cs : List Nat) (hlen : cs.length = 15) (hcs : Coeffs cs) :
    polyToData (k :: cs) =
      Data.mk ((unpack cs).2 % 1024) ((unpack cs).2 / 1024) (secretBytes (unpack cs).1 ++ List.replicate 13 0) k := by
  obtain ⟨c0, c1, c2, c3, c4, c5, c6, c7, c8, c9, c10, c11, c12, c13, c14, rfl⟩ := exists15 cs hlen
  simp only [Coeffs, List.forall_mem_cons] at hcs
  rw [polyToData_arith]
  refine congrArg (Data.mk _ _ · k) (eq_secretBytes_pad _ _ rfl ?_ ?_ rfl ?_)
  · simp only [List.forall_mem_cons, List.not_mem_nil, false_imp_iff, implies_true, and_true]
    omega
  · simp only [List.getD_cons_succ, List.getD_cons_zero]
    omega
  · simp only [secretNat, unpack, List.map, List.take, List.getD_cons_succ, List.getD_cons_zero]
    refine join_step (bytes5 ?_ ?_ ?_ ?_) rfl (join_step (bytes5 ?_ ?_ ?_ ?_) rfl (join_step (bytes5 ?_ ?_ ?_ ?_) rfl ?tail))
    case tail => simp only [join, List.length, Nat.reducePow, Nat.reduceAdd]; omega
    all_goals omega

theorem polyToData_wf (k : Nat) (cs : List Nat) (hk : k < 2048) (hlen : cs.length = 15) (hcs : Coeffs cs) :
    (polyToData (k :: cs)).WF := by
  rw [polyToData_eq_spec k cs hlen hcs]
  have hb := (unpack_bounds cs hlen hcs).2
  exact .of_bytes (Nat.mod_lt _ (by omega)) (by omega) hk (secretBytes_length _) (secretBytes_lt _) (secretBytes_top _)

theorem polyToData_dataToPoly (d : Data) (h : d.WF) : polyToData (d.checksum :: dataToPoly d) = d := by
  rw [polyToData_eq_spec _ _ (dataToPoly_length d h) (dataToPoly_lt d h), dataToPoly_eq_spec d h]
  have hS := secretNat_lt d.secret (by rw [h.secret_len]; decide) h.secret_bytes
  have hb := h.birthday_lt
  have hE : extraNat d.features d.birthday < 2 ^ 15 := by
    have := h.features_lt; unfold extraNat; omega
  rw [unpack_coeffs _ _ hS hE, ← eq_secretBytes_pad d.secret _ h.secret_len h.secret_bytes h.secret_top h.secret_pad rfl]
  cases d with
  | mk bd ft sec k =>
    simp only [extraNat] at *
    congr <;> omega

theorem dataToPoly_polyToData (k : Nat) (cs : List Nat) (hk : k < 2048) (hlen : cs.length = 15) (hcs : Coeffs cs) :
    dataToPoly (polyToData (k :: cs)) = cs := by
  rw [dataToPoly_eq_spec _ (polyToData_wf k cs hk hlen hcs), polyToData_eq_spec k cs hlen hcs]
  simp only
  have hb := unpack_bounds cs hlen hcs
  rw [secretNat_secretBytes _ hb.1]
  have : extraNat ((unpack cs).2 / 1024) ((unpack cs).2 % 1024) = (unpack cs).2 := by unfold extraNat; omega
  rw [this]
  exact coeffs_unpack cs hlen hcs

/-- a well-formed seed whose check value is recomputed is canonical (`create` and `crypt` end that way) -/
theorem Data.Canon.recompute {B F : Nat} {s : List Nat} (h : (Data.mk B F s 0).WF) :
    (Data.mk B F s (checkValue (Data.mk B F s 0))).Canon :=
  { h with checksum_lt := checkValue_lt _ h, checksum_ok := rfl }

/-- word 1 is the GF(2048) check value of the specification -/
theorem checkValue_eq_checkWord (d : Data) (h : d.WF) :
    checkValue d = checkWord (coeffs (secretNat d.secret) (extraNat d.features d.birthday)) := by
  rw [checkWord_eq _ (coeffs_lt _ _), ← dataToPoly_eq_spec d h]; rfl

theorem poly_coeffs (d : Data) (h : d.WF) : Coeffs (d.checksum :: dataToPoly d) :=
  List.forall_mem_cons.mpr ⟨h.checksum_lt, dataToPoly_lt d h⟩

/-- the indices `polyseed_encode` looks up are the seed's polynomial with the coin on it -/
theorem encodeCoeffs_eq (d : Data) (coin : Nat) : encodeCoeffs d coin = applyCoin (d.checksum :: dataToPoly d) coin := by
  unfold encodeCoeffs
  cases dataToPoly d <;> rfl

theorem encodeCoeffs_lt (d : Data) (h : d.WF) (coin : Nat) (hcoin : coin < 2048) : Coeffs (encodeCoeffs d coin) := by
  rw [encodeCoeffs_eq]; exact applyCoin_coeffs _ _ (poly_coeffs d h) hcoin

theorem encodeCoeffs_length (d : Data) (h : d.WF) (coin : Nat) : (encodeCoeffs d coin).length = 16 := by
  rw [encodeCoeffs_eq, applyCoin_length, List.length_cons, dataToPoly_length d h]

/-- The 16 word indices `polyseed_encode` uses are exactly the published ones. -/
theorem encodeCoeffs_eq_indices (d : Data) (h : d.Canon) (coin : Nat) :
    encodeCoeffs d coin = indices (secretNat d.secret) d.birthday d.features coin := by
  unfold encodeCoeffs indices
  rw [h.checksum_ok, checkValue_eq_checkWord d h.toWF, dataToPoly_eq_spec d h.toWF]
  split <;> rename_i heq
  · have := coeffs_length (secretNat d.secret) (extraNat d.features d.birthday)
    rw [heq] at this; simp at this
  · rw [heq]

/-- The decomposed phrase the library assembles is the published phrase. -/
theorem encodeTmp_eq_phraseNfkd (L : Lang) (d : Data) (h : d.Canon) (coin : Nat) :
    encodeTmp L d coin = phraseNfkd L (indices (secretNat d.secret) d.birthday d.features coin) := by
  unfold encodeTmp phraseNfkd
  rw [encodeCoeffs_eq_indices d h coin, joinWords_eq_intercalate]

end Polyseed
