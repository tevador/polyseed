import Polyseed.Gen.Registry
/-! The registry of the current tree, language by language. -/
namespace Polyseed.Tables

theorem forall_registry {P : Lang → Prop} (h0 : P Gen.L0.lang) (h1 : P Gen.L1.lang) (h2 : P Gen.L2.lang) (h3 : P Gen.L3.lang)
    (h4 : P Gen.L4.lang) (h5 : P Gen.L5.lang) (h6 : P Gen.L6.lang) (h7 : P Gen.L7.lang) (h8 : P Gen.L8.lang) (h9 : P Gen.L9.lang) :
    ∀ L ∈ Gen.registry, P L := by
  intro L hL
  simp only [Gen.registry, List.mem_cons, List.not_mem_nil, or_false] at hL
  rcases hL with rfl | rfl | rfl | rfl | rfl | rfl | rfl | rfl | rfl | rfl <;> assumption

end Polyseed.Tables
