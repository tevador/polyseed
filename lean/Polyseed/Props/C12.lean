import Polyseed.Lemmas.Heap
import Polyseed.Lemmas.Basic
import Polyseed.Lemmas.Storage
import Polyseed.Model.Canon
import Polyseed.Lemmas.PackSpec
/-!
# C12 — password encryption is an involution that always leaves a valid seed
-/
namespace Polyseed.C12

theorem xorPrefix_length (n : Nat) (a m : List Nat) : (xorPrefix n a m).length = a.length := by
  induction n generalizing a m with
  | zero => rfl
  | succ n ih => cases a <;> simp [xorPrefix, ih]

theorem xorPrefix_getD (n : Nat) (a m : List Nat) (i : Nat) :
    (xorPrefix n a m).getD i 0 = if i < n ∧ i < a.length then a.getD i 0 ^^^ m.getD i 0 else a.getD i 0 := by
  induction n generalizing a m i with
  | zero => simp [xorPrefix]
  | succ n ih =>
    cases a with
    | nil => simp [xorPrefix]
    | cons x xs =>
      cases i with
      | zero => cases m <;> simp [xorPrefix]
      | succ i =>
        simp only [xorPrefix, List.getD_cons_succ, ih, List.length_cons, Nat.add_lt_add_iff_right]
        cases m <;> simp

theorem xorPrefix_take (n : Nat) : ∀ (a m : List Nat) (k : Nat), k ≤ n → n ≤ m.length →
    (xorPrefix n a m).take k = List.zipWith (· ^^^ ·) (a.take k) (m.take k) := by
  induction n with
  | zero => intro a m k hk _; simp [Nat.le_zero.mp hk]
  | succ n ih =>
    intro a m k hk hm
    rcases a with _ | ⟨x, as⟩
    · simp [xorPrefix]
    · rcases m with _ | ⟨y, ms⟩
      · simp at hm
      · rcases k with _ | k
        · simp
        · simp only [xorPrefix, List.headD_cons, List.tail_cons, List.take_succ_cons, List.zipWith_cons_cons, List.cons.injEq, true_and]
          exact ih as ms k (by omega) (by simpa using hm)

theorem xorPrefix_drop (n : Nat) (a m : List Nat) : (xorPrefix n a m).drop n = a.drop n := by
  induction n generalizing a m with
  | zero => rfl
  | succ n ih => cases a <;> simp [xorPrefix, ih]

/-- the new secret: bytes 0..17 XOR mask, byte 18 XOR mask with the top two bits dropped, the rest unchanged -/
def cryptSecret (s mask : List Nat) : List Nat :=
  let s1 := xorPrefix SECRET_SIZE s mask
  s1.set (SECRET_SIZE - 1) ((s1.getD (SECRET_SIZE - 1) 0) &&& CLEAR_MASK)

theorem cryptSecret_length (s m : List Nat) : (cryptSecret s m).length = s.length := by
  simp [cryptSecret, xorPrefix_length]

/-- the bytes of the new secret; only the first 19 bytes of `s` need to be there -/
theorem cryptSecret_getD_of_le (s m : List Nat) (hs : 19 ≤ s.length) (i : Nat) :
    (cryptSecret s m).getD i 0 =
      if i < 18 then s.getD i 0 ^^^ m.getD i 0
      else if i = 18 then (s.getD 18 0 ^^^ m.getD 18 0) &&& 63
      else s.getD i 0 := by
  have h18 : 18 < (xorPrefix 19 s m).length := by rw [xorPrefix_length]; omega
  show ((xorPrefix 19 s m).set 18 ((xorPrefix 19 s m).getD 18 0 &&& 63)).getD i 0 = _
  rw [List.getD_eq_getElem?_getD]
  by_cases h : i = 18
  · subst h
    rw [List.getElem?_set_self h18, Option.getD_some, xorPrefix_getD, if_pos ⟨by decide, by omega⟩]
    rfl
  · have e : (i < 19 ∧ i < s.length) ↔ i < 18 := by omega
    rw [List.getElem?_set_ne (Ne.symm h), ← List.getD_eq_getElem?_getD, xorPrefix_getD]
    simp only [e, h, ↓reduceIte]

/-- The mask is the first 19 bytes of the KDF output, top two bits of the 19th dropped. -/
theorem cryptSecret_getD (s m : List Nat) (hs : s.length = 32) (i : Nat) :
    (cryptSecret s m).getD i 0 =
      if i < 18 then s.getD i 0 ^^^ m.getD i 0
      else if i = 18 then (s.getD 18 0 ^^^ m.getD 18 0) &&& 63
      else s.getD i 0 :=
  cryptSecret_getD_of_le s m (by omega) i

/-- applying the same mask twice restores the secret (for secrets within 150 bits). -/
theorem cryptSecret_involutive (s m : List Nat) (hs : s.length = 32) (htop : s.getD 18 0 < 64) :
    cryptSecret (cryptSecret s m) m = s := by
  refine getD_ext _ _ (by rw [cryptSecret_length, cryptSecret_length]) fun i => ?_
  rw [cryptSecret_getD _ m (by rw [cryptSecret_length, hs])]
  simp only [cryptSecret_getD s m hs]
  rcases Nat.lt_trichotomy i 18 with h | rfl | h
  · simp only [h, ↓reduceIte, xor_xor_self]
  · simp only [Nat.lt_irrefl, ↓reduceIte]
    -- masking twice is masking once, and the top two bits of `s[18]` were clear
    rw [Nat.and_xor_distrib_right, Nat.and_assoc, Nat.and_self, ← Nat.and_xor_distrib_right, xor_xor_self, and_63,
      Nat.mod_eq_of_lt htop]
  · simp only [Nat.lt_asymm h, Nat.ne_of_gt h, ↓reduceIte]

theorem cryptData_secret (d : Data) (m : List Nat) : (cryptData d m).secret = cryptSecret d.secret m := rfl
theorem cryptData_features (d : Data) (m : List Nat) : (cryptData d m).features = d.features ^^^ 16 := rfl
theorem cryptData_checksum (d : Data) (m : List Nat) :
    (cryptData d m).checksum = checkValue { d with secret := cryptSecret d.secret m, features := d.features ^^^ 16 } := rfl

/-- Applying the password operation twice with the same mask restores the original seed bit for bit. -/
theorem crypt_involutive (d : Data) (m : List Nat) (h : d.Canon) : cryptData (cryptData d m) m = d := by
  obtain ⟨B, F, s, k⟩ := d
  have hs : cryptSecret (cryptSecret s m) m = s := cryptSecret_involutive s m h.secret_len h.secret_top
  have hk : k = checkValue ⟨B, F, s, 0⟩ := h.checksum_ok
  show Data.mk B (F ^^^ 16 ^^^ 16) (cryptSecret (cryptSecret s m) m)
    (checkValue ⟨B, F ^^^ 16 ^^^ 16, cryptSecret (cryptSecret s m) m, 0⟩) = ⟨B, F, s, k⟩
  rw [hs, xor_xor_self, hk]

/-- the mask bytes come from the KDF and are bytes -/
def MaskOK (m : List Nat) : Prop := ∀ b ∈ m, b < 256

/-- the seed after the XOR and the flag toggle, before the check value is recomputed, is well-formed -/
theorem crypt_wf (d : Data) (m : List Nat) (h : d.WF) (hm : MaskOK m) :
    (Data.mk d.birthday (d.features ^^^ 16) (cryptSecret d.secret m) d.checksum).WF := by
  have hg := cryptSecret_getD d.secret m h.secret_len
  have h63 (x : Nat) : x &&& 63 < 64 := Nat.and_lt_two_pow x (n := 6) (by decide)
  refine { birthday_lt := h.birthday_lt, features_lt := Nat.xor_lt_two_pow (n := 5) h.features_lt (by decide),
           checksum_lt := h.checksum_lt, secret_len := (cryptSecret_length _ m).trans h.secret_len,
           secret_bytes := List.forall_mem_iff_forall_getElem.mpr fun i _ => ?_, secret_top := ?_, secret_pad := ?_ }
  · show (cryptSecret d.secret m)[i] < 256
    have hsb := BytesLt.getD_lt h.secret_bytes
    rw [List.getElem_eq_getD 0, hg i]
    split
    · exact Nat.xor_lt_two_pow (n := 8) (hsb i) (BytesLt.getD_lt hm i)
    · split
      · exact Nat.lt_trans (h63 _) (by decide)
      · exact hsb i
  · show (cryptSecret d.secret m).getD 18 0 < 64
    rw [hg 18]
    exact h63 _
  · show ((xorPrefix 19 d.secret m).set 18 _).drop 19 = _
    rw [List.drop_set_of_lt (by decide), xorPrefix_drop]
    exact h.secret_pad

/-- Each application toggles the encrypted flag, leaves birthday and user features unchanged, keeps the
secret within 150 bits and the padding zero, and recomputes the check value: the result is canonical for
EVERY mask the KDF can return (so a wrong password still yields a well-formed seed). -/
theorem crypt_canon (d : Data) (m : List Nat) (h : d.Canon) (hm : MaskOK m) : (cryptData d m).Canon :=
  -- `crypt_wf` is about the old check value; no other field of `WF` mentions it, so it serves at check value 0 as well
  Data.Canon.recompute (s := cryptSecret d.secret m) { crypt_wf d m h.toWF hm with checksum_lt := Nat.zero_lt_succ _ }

theorem isEncrypted_eq (F : Nat) : isEncrypted F = F.testBit 4 := by
  unfold isEncrypted ENCRYPTED_MASK
  rw [show (16 : Nat) = 1 <<< 4 from rfl, and_bit, Nat.testBit_eq_decide_div_mod_eq]
  rcases Nat.mod_two_eq_zero_or_one (F / 2 ^ 4) with h | h <;> simp [h]

theorem isEncryptedSeed_eq (d : Data) : isEncryptedSeed d = d.features / 16 % 2 := by
  unfold isEncryptedSeed
  rw [isEncrypted_eq, ← Nat.toNat_testBit d.features 4]
  cases d.features.testBit 4 <;> rfl

theorem crypt_toggles (d : Data) (m : List Nat) (hf : d.features < 32) :
    isEncrypted (cryptData d m).features = !isEncrypted d.features := by
  rw [cryptData_features, isEncrypted_eq, isEncrypted_eq, Nat.testBit_xor]
  cases d.features.testBit 4 <;> rfl

/-- `polyseed_crypt`: the events are [nfkd of the password, if it has non-ASCII bytes], ONE KDF call with
(normalised password, 'POLYSEED mask' 00 FF FF, 10000 iterations, 32 bytes), then the three wipes. -/
theorem crypt_events (cfg : Cfg) (env : Env) (lib : Lib) (b : Nat) (d : Data) (pw : List Nat) (hlive : lib.get b = some d) :
    let pn := lazyNfkd cfg.strSize (env.nfkd lib.deps.nfkd) pw
    (crypt cfg env lib b d pw).2 =
      (if pn.2 then [Event.nfkd lib.deps.nfkd pw pn.1] else []) ++
      [Event.kdf lib.deps.pbkdf2 pn.1 [80, 79, 76, 89, 83, 69, 69, 68, 32, 109, 97, 115, 107, 0, 255, 255] 10000 32
          (env.kdf lib.deps.pbkdf2 pn.1 cryptSalt 10000 32),
       Event.zeroStack lib.deps.memzero .poly cfg.sizeofPoly,
       Event.zeroStack lib.deps.memzero .mask 32,
       Event.zeroStack lib.deps.memzero .passNorm cfg.strSize] ∧
    (crypt cfg env lib b d pw).1.get b = some (cryptData d (env.kdf lib.deps.pbkdf2 pn.1 cryptSalt 10000 32)) := by
  simp only [crypt, decompose, KDF_NUM_ITERATIONS, cryptSalt, Lib.get_update, hlive, ↓reduceIte, Option.map_some, and_self]

/-- canonically equivalent spellings (equal normalised forms) give the same result. -/
theorem crypt_norm_equiv (cfg : Cfg) (env : Env) (lib : Lib) (b : Nat) (d : Data) (pw pw' : List Nat) (hlive : lib.get b = some d)
    (h : (lazyNfkd cfg.strSize (env.nfkd lib.deps.nfkd) pw).1 = (lazyNfkd cfg.strSize (env.nfkd lib.deps.nfkd) pw').1) :
    (crypt cfg env lib b d pw).1.get b = (crypt cfg env lib b d pw').1.get b := by
  rw [(crypt_events cfg env lib b d pw hlive).2, (crypt_events cfg env lib b d pw' hlive).2, h]

/-- non-vacuity / the published vector: test mask of tests.c applied to seed 3's secret is an involution. -/
example : cryptSecret (cryptSecret ([0x67, 0xb9, 0x36, 0xdf, 0xa4, 0xda, 0x6a, 0xe8, 0xd3, 0xb3, 0xcd, 0xb3, 0xb9, 0x37, 0xf4, 0x02, 0x7b, 0x0e, 0x3b] ++ List.replicate 13 0)
    [0x54, 0x4a, 0x88, 0x95, 0xff, 0xc0, 0x45, 0x1c, 0x9b, 0x8e, 0x28, 0x1e, 0x18, 0x2d, 0x0d, 0x73, 0x63, 0x7d, 0x1b, 0xd7])
    [0x54, 0x4a, 0x88, 0x95, 0xff, 0xc0, 0x45, 0x1c, 0x9b, 0x8e, 0x28, 0x1e, 0x18, 0x2d, 0x0d, 0x73, 0x63, 0x7d, 0x1b, 0xd7]
    = [0x67, 0xb9, 0x36, 0xdf, 0xa4, 0xda, 0x6a, 0xe8, 0xd3, 0xb3, 0xcd, 0xb3, 0xb9, 0x37, 0xf4, 0x02, 0x7b, 0x0e, 0x3b] ++ List.replicate 13 0 := by
  decide +kernel

end Polyseed.C12
