import Polyseed.Lemmas.Tables
import Polyseed.Gen.L2
import Polyseed.Pinned.L2
/-! Kernel-evaluated facts about language 2 of the registry AS THE CURRENT TREE HAS IT (Gen is regenerated on every run). -/
namespace Polyseed.Tables.T2

/-- the list is exactly the list published at the pinned release (name, flags, separator, all 2048 words) -/
theorem frozen : Gen.L2.lang = Pinned.L2.lang := rfl

/-- 2048 NUL-free, space-free, non-empty words in the order the library's search needs; no two words share their first
four accent-stripped letters (languages that allow abbreviation); an empty token is not recognised -/
theorem passes : langChecks Gen.L2.lang = true := by decide_table Gen.L2.lang Gen.L2.wordsList

end Polyseed.Tables.T2
