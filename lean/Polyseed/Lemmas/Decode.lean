import Polyseed.Lemmas.Api
import Polyseed.Lemmas.Str
/-!
# The language loop, and the decoders on a string of 16 tokens

`str_split` inverts joining by single spaces (`strSplit_joinWords`, Lemmas/Str); so a decoder given a string that
normalises to space-free tokens joined by single spaces is the lookup on those tokens followed by the common tail
(`decodeExplicit_tokens`, `decode_tokens`).  The language loop with its `have_lang` flag is a case split on `matching`,
the list of the languages that recognise all tokens (`phraseDecode_spec`).
-/
namespace Polyseed

/-! ### the decoders on a string that normalises to space-free tokens joined by single spaces -/

/-- explicit decoding of a string that normalises to `cfg.numWords` tokens the language recognises as `idx` -/
theorem decodeExplicit_tokens (cfg : Cfg) (env : Env) (lib : Lib) (L : Lang) (toks : List (List Nat)) (idx : List Nat)
    (hlen : toks.length = cfg.numWords) (htok : ∀ t ∈ toks, t ≠ [] ∧ ∀ b ∈ t, b ≠ 32) (hf : findAll L toks = some idx)
    (s : List Nat) (coin : Nat) (w : World) (hs : (decompose cfg env lib s).1 = joinWords [32] toks) :
    decodeExplicit cfg env lib s coin L w = decodeFinish cfg lib idx coin none (decompose cfg env lib s).2 w := by
  rw [decodeExplicit_eq, hs, strSplit_joinWords toks _ (Nat.le_of_eq hlen) htok, hlen]
  simp [hf]

/-- decoding with automatic detection, likewise: the language loop on the tokens, then the common tail -/
theorem decode_tokens (cfg : Cfg) (env : Env) (lib : Lib) (toks : List (List Nat))
    (hlen : toks.length = cfg.numWords) (htok : ∀ t ∈ toks, t ≠ [] ∧ ∀ b ∈ t, b ≠ 32)
    (s : List Nat) (coin : Nat) (w : World) (hs : (decompose cfg env lib s).1 = joinWords [32] toks) :
    let det := phraseDecode cfg.langs toks
    let pre := (decompose cfg env lib s).2 ++ [detectWipe cfg lib]
    decode cfg env lib s coin w =
      if det.status ≠ .ok then ⟨lib, ⟨det.status, none, det.langOut⟩, pre ++ decodeWipes cfg lib, w⟩
      else decodeFinish cfg lib det.idx coin det.langOut pre w := by
  rw [decode_eq, hs, strSplit_joinWords toks _ (Nat.le_of_eq hlen) htok, hlen]
  simp

/-! ### language auto-detection: the loop with the `have_lang` flag is a case split on the matching languages -/

/-- positions and index lists of the languages that recognise all tokens, in registry order -/
def matching (toks : List (List Nat)) : List Lang → Nat → List (Nat × List Nat)
  | [], _ => []
  | L :: Ls, li =>
    match findAll L toks with
    | none => matching toks Ls (li + 1)
    | some idx => (li, idx) :: matching toks Ls (li + 1)

/-- the loop with its accumulator is a case split on what was found before, followed by what the remaining
languages match -/
theorem detectAux_eq (toks : List (List Nat)) : ∀ (Ls : List Lang) (li : Nat) (acc : Option (Nat × List Nat)),
    detectAux toks Ls li acc =
      match acc.toList ++ matching toks Ls li with
      | [] => ⟨.lang, [], none⟩
      | [(l, idx)] => ⟨.ok, idx, some l⟩
      | (l, idx) :: _ :: _ => ⟨.multLang, idx, some l⟩ := by
  intro Ls
  induction Ls with
  | nil => intro li acc; cases acc <;> rfl
  | cons L Ls ih =>
    intro li acc
    unfold detectAux matching
    cases findAll L toks with
    | none => exact ih (li + 1) acc
    | some idx =>
      cases acc with
      | none => exact ih (li + 1) (some (li, idx))
      | some a => rfl

/-- `polyseed_phrase_decode`: OK iff exactly one language recognises all tokens (and then its position and
indices are reported); the multiple-languages status iff two or more do (the first one is what was written to
`lang_out`); the language error iff none does. -/
theorem phraseDecode_spec (langs : List Lang) (toks : List (List Nat)) :
    phraseDecode langs toks =
      match matching toks langs 0 with
      | [] => ⟨.lang, [], none⟩
      | [(l, idx)] => ⟨.ok, idx, some l⟩
      | (l, idx) :: _ :: _ => ⟨.multLang, idx, some l⟩ := detectAux_eq toks langs 0 none

theorem matching_mem (toks : List (List Nat)) : ∀ (Ls : List Lang) (li l : Nat) (idx : List Nat),
    (l, idx) ∈ matching toks Ls li ↔ ∃ (k : Nat) (hk : k < Ls.length), l = li + k ∧ findAll Ls[k] toks = some idx := by
  intro Ls
  induction Ls with
  | nil => intro li l idx; simp [matching]
  | cons L Ls ih =>
    intro li l idx
    -- the position is that of `L`, or one more than a position in `Ls`
    have hsplit : (∃ (k : Nat) (hk : k < (L :: Ls).length), l = li + k ∧ findAll (L :: Ls)[k] toks = some idx) ↔
        (l = li ∧ findAll L toks = some idx) ∨ (l, idx) ∈ matching toks Ls (li + 1) := by
      rw [ih]
      constructor
      · rintro ⟨_ | k, hk, rfl, hf⟩
        · exact .inl ⟨rfl, hf⟩
        · exact .inr ⟨k, Nat.lt_of_succ_lt_succ hk, by omega, hf⟩
      · rintro (⟨rfl, hf⟩ | ⟨k, hk, rfl, hf⟩)
        · exact ⟨0, Nat.zero_lt_succ _, rfl, hf⟩
        · exact ⟨k + 1, Nat.succ_lt_succ hk, by omega, hf⟩
    rw [hsplit, matching]
    cases findAll L toks with
    | none => simp
    | some i0 => simp [eq_comm]

theorem matching_iff (toks : List (List Nat)) (langs : List Lang) (l : Nat) (idx : List Nat) :
    (l, idx) ∈ matching toks langs 0 ↔ ∃ (hl : l < langs.length), findAll langs[l] toks = some idx := by
  rw [matching_mem]
  constructor
  · rintro ⟨k, hk, rfl, hf⟩; exact ⟨by omega, by simpa using hf⟩
  · rintro ⟨hl, hf⟩; exact ⟨l, hl, by omega, hf⟩

theorem matching_pairwise (toks : List (List Nat)) : ∀ (Ls : List Lang) (li : Nat),
    (matching toks Ls li).Pairwise (fun a b => a.1 < b.1) := by
  intro Ls
  induction Ls with
  | nil => intro li; exact .nil
  | cons L Ls ih =>
    intro li
    unfold matching
    split
    · exact ih (li + 1)
    · refine .cons (fun b hb => ?_) (ih (li + 1))
      obtain ⟨k, _, hk, _⟩ := (matching_mem toks Ls (li + 1) b.1 b.2).mp hb
      simp only; omega

/-- given one language that recognises all tokens: 'multiple languages' exactly when another one does too -/
theorem phraseDecode_multLang_iff_of_mem (langs : List Lang) (toks : List (List Nat)) {l : Nat} {idx : List Nat}
    (h : (l, idx) ∈ matching toks langs 0) :
    (phraseDecode langs toks).status = .multLang ↔ ∃ x ∈ matching toks langs 0, x.1 ≠ l := by
  have hp := matching_pairwise toks langs 0
  rw [phraseDecode_spec]
  split <;> rename_i hm <;> rw [hm] at hp h ⊢
  · cases h
  · cases List.mem_singleton.mp h
    simp
  · -- the first two entries have different positions, so one of them is not `l`
    rename_i a ia b rest
    have hab : a < b.1 := (List.pairwise_cons.mp hp).1 b List.mem_cons_self
    refine iff_of_true rfl ?_
    by_cases e : a = l
    · exact ⟨b, by simp, by omega⟩
    · exact ⟨(a, ia), by simp, e⟩

theorem phraseDecode_ok_sound (langs : List Lang) (toks : List (List Nat)) (h : (phraseDecode langs toks).status = .ok) :
    ∃ L ∈ langs, findAll L toks = some (phraseDecode langs toks).idx := by
  rw [phraseDecode_spec] at h ⊢
  split at h
  · simp at h
  · rename_i l idx hm
    obtain ⟨hl, hf⟩ := (matching_iff toks langs l idx).mp (by rw [hm]; simp)
    exact ⟨langs[l], List.getElem_mem hl, hf⟩
  · simp at h

end Polyseed
