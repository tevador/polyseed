import Polyseed.Lemmas.PackSpec
import Polyseed.Lemmas.Tables
import Polyseed.Gen.Registry
/-!
# C03 — phrases follow the published bit layout exactly and depend on nothing else

`Spec.*` (Model/Spec.lean) is the README's encoding written without reference to the code:
base-1024 digits of the 150-bit secret, one extra bit each, GF(2)[x]/(x^11+x^2+1) check word,
coin XORed into word 2, words joined by the separator.  The theorems say the code's model computes
exactly that, for EVERY canonical seed, coin and language.
-/
namespace Polyseed.C03
open Spec

/-- word 1 is the GF(2048) check value of the specification. -/
theorem checkValue_eq_spec (d : Data) (h : d.WF) :
    checkValue d = checkWord (coeffs (secretNat d.secret) (extraNat d.features d.birthday)) :=
  checkValue_eq_checkWord d h

/-- The 16 word indices `polyseed_encode` uses are exactly the published ones. -/
theorem encodeCoeffs_eq_spec (d : Data) (h : d.Canon) (coin : Nat) :
    encodeCoeffs d coin = indices (secretNat d.secret) d.birthday d.features coin :=
  encodeCoeffs_eq_indices d h coin

/-- The decomposed phrase the library assembles is the published phrase. -/
theorem encodeTmp_eq_spec (L : Lang) (d : Data) (h : d.Canon) (coin : Nat) :
    encodeTmp L d coin = phraseNfkd L (indices (secretNat d.secret) d.birthday d.features coin) :=
  encodeTmp_eq_phraseNfkd L d h coin

/-- `polyseed_encode`: the output is the published phrase, NFC-composed by the injected function iff the
language composes; the returned size is the length of the output. -/
theorem encode_eq_spec (cfg : Cfg) (env : Env) (lib : Lib) (L : Lang) (d : Data) (h : d.Canon) (coin : Nat)
    (hfit : (phraseNfkd L (indices (secretNat d.secret) d.birthday d.features coin)).length < cfg.strSize) :
    (encode cfg env lib d L coin).1 =
      (let p := phraseNfkd L (indices (secretNat d.secret) d.birthday d.features coin)
       let out := if L.compose then env.nfc lib.deps.nfc p else p
       EncOut.ok out out.length) := by
  rw [← encodeTmp_eq_spec L d h coin] at hfit ⊢
  rw [encode_fits hfit]

/-- The phrase is a pure function of secret, birthday, features, coin and language. -/
theorem encode_pure (cfg : Cfg) (env : Env) (lib : Lib) (L : Lang) (d d' : Data) (coin : Nat)
    (h1 : d.secret = d'.secret) (h2 : d.birthday = d'.birthday) (h3 : d.features = d'.features) (h4 : d.checksum = d'.checksum) :
    (encode cfg env lib d L coin).1 = (encode cfg env lib d' L coin).1 := by
  have : encodeTmp L d coin = encodeTmp L d' coin := by
    simp only [encodeTmp, encodeCoeffs, dataToPoly, h1, h2, h3, h4]
  simp only [encode, this]

/-- the language flags and separators as published: NFC for Spanish, French, Japanese, Korean; ideographic space for Japanese. -/
theorem flags_as_published :
    Gen.registry.map (fun L => (L.nameEn, L.compose, L.sep)) =
      [ ([69, 110, 103, 108, 105, 115, 104], false, [32]),
        ([74, 97, 112, 97, 110, 101, 115, 101], true, [0xE3, 0x80, 0x80]),
        ([75, 111, 114, 101, 97, 110], true, [32]),
        ([83, 112, 97, 110, 105, 115, 104], true, [32]),
        ([70, 114, 101, 110, 99, 104], true, [32]),
        ([73, 116, 97, 108, 105, 97, 110], false, [32]),
        ([67, 122, 101, 99, 104], false, [32]),
        ([80, 111, 114, 116, 117, 103, 117, 101, 115, 101], false, [32]),
        ([67, 104, 105, 110, 101, 115, 101, 32, 40, 83, 105, 109, 112, 108, 105, 102, 105, 101, 100, 41], false, [32]),
        ([67, 104, 105, 110, 101, 115, 101, 32, 40, 84, 114, 97, 100, 105, 116, 105, 111, 110, 97, 108, 41], false, [32]) ] := by
  decide +kernel

/-- published vector (tests.c, seed 1, English, coin 0): "raven tail swear infant grief assist regular lamp duck valid someone little harsh puppy airport language" -/
def secret1 : List Nat := [0xdd, 0x76, 0xe7, 0x35, 0x9a, 0x0d, 0xed, 0x37, 0xcd, 0x0f, 0xf0, 0xf3, 0xc8, 0x29, 0xa5, 0xae, 0x01, 0x67, 0x33]

theorem vector_en1 : indices (secretNat secret1) 1 0 0 =
    [1427, 1770, 1756, 922, 820, 110, 1446, 998, 542, 1926, 1656, 1044, 842, 1392, 44, 999] := by
  decide +kernel

theorem vector_en1_phrase : phraseNfkd Gen.L0.lang (indices (secretNat secret1) 1 0 0) =
    [114, 97, 118, 101, 110, 32, 116, 97, 105, 108, 32, 115, 119, 101, 97, 114, 32, 105, 110, 102, 97, 110, 116, 32, 103, 114, 105, 101, 102, 32,
     97, 115, 115, 105, 115, 116, 32, 114, 101, 103, 117, 108, 97, 114, 32, 108, 97, 109, 112, 32, 100, 117, 99, 107, 32, 118, 97, 108, 105, 100, 32,
     115, 111, 109, 101, 111, 110, 101, 32, 108, 105, 116, 116, 108, 101, 32, 104, 97, 114, 115, 104, 32, 112, 117, 112, 112, 121, 32,
     97, 105, 114, 112, 111, 114, 116, 32, 108, 97, 110, 103, 117, 97, 103, 101] := by
  decide_table Gen.L0.lang Gen.L0.wordsList

end Polyseed.C03
