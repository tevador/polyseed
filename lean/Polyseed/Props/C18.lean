import Polyseed.Lemmas.Api
import Polyseed.Lemmas.Basic
import Polyseed.Lemmas.Heap
/-!
# C18 — injected dependencies are honoured; new seeds carry the full CSPRNG output
-/
namespace Polyseed.C18

/-- `polyseed_inject` replaces every entry, independent of what was injected before; NULL `time`, `alloc`,
`free` become the libc functions. -/
theorem inject_replaces (lib : Lib) (d : Deps) :
    (inject lib d).deps = { d with time := if d.time = 0 then LIBC_TIME else d.time,
                                   alloc := if d.alloc = 0 then LIBC_MALLOC else d.alloc,
                                   free := if d.free = 0 then LIBC_FREE else d.free } := rfl

theorem inject_last_wins (lib : Lib) (d1 d2 : Deps) : (inject (inject lib d1) d2).deps = (inject lib d2).deps := rfl

theorem default_eq_iff (x c : Nat) : (if x = 0 then c else x) = c ↔ x = 0 ∨ x = c := by
  split <;> simp_all

/-- libc functions are used exactly when the corresponding optional entry is NULL. -/
theorem inject_optional (lib : Lib) (d : Deps) :
    ((inject lib d).deps.time = LIBC_TIME ↔ d.time = 0 ∨ d.time = LIBC_TIME) ∧
    ((inject lib d).deps.alloc = LIBC_MALLOC ↔ d.alloc = 0 ∨ d.alloc = LIBC_MALLOC) ∧
    ((inject lib d).deps.free = LIBC_FREE ↔ d.free = 0 ∨ d.free = LIBC_FREE) :=
  ⟨default_eq_iff _ _, default_eq_iff _ _, default_eq_iff _ _⟩

/-- the other five entries are taken as given. -/
theorem inject_mandatory (lib : Lib) (d : Deps) :
    (inject lib d).deps.randbytes = d.randbytes ∧ (inject lib d).deps.pbkdf2 = d.pbkdf2 ∧
    (inject lib d).deps.memzero = d.memzero ∧ (inject lib d).deps.nfc = d.nfc ∧ (inject lib d).deps.nfkd = d.nfkd :=
  ⟨rfl, rfl, rfl, rfl, rfl⟩

/-- injection touches neither the feature mask nor any seed. -/
theorem inject_frame (lib : Lib) (d : Deps) : (inject lib d).reserved = lib.reserved ∧ (inject lib d).heap = lib.heap := ⟨rfl, rfl⟩

/-- A successful `polyseed_create` calls exactly: the injected allocator, the injected clock, the injected
random source for 19 bytes, the injected wipe (for its polynomial) — in this order, nothing else. -/
theorem create_events (cfg : Cfg) (lib : Lib) (f : Nat) (w : World) (b : Nat)
    (h : (create cfg lib f w).out = (.ok, some b)) :
    ∃ junk e w1, doAlloc cfg lib w = (some (b, junk), e, w1) ∧
      e = .alloc lib.deps.alloc cfg.sizeofData (some b) ∧
      (create cfg lib f w).events =
        [e, .time lib.deps.time (w1.times.headD 0), .rand lib.deps.randbytes 19 (w1.rands.headD []),
         .zeroStack lib.deps.memzero .poly cfg.sizeofPoly] ∧
      (create cfg lib f w).lib.get b =
        some (createData junk (makeFeatures (f % 2 ^ 32)) (w1.times.headD 0) (w1.rands.headD [])) := by
  obtain ⟨b', junk, e, w1, ha, hc⟩ := create_ok_inv (congrArg Prod.fst h)
  rw [hc] at h ⊢
  cases h
  exact ⟨junk, e, w1, ha, doAlloc_event ha, rfl, Lib.get_put_self ..⟩

/-- the 150 secret bits are exactly the 19 random bytes with the top two bits of the last byte dropped;
bytes 19..31 are zero; nothing of the previous contents of the block (junk) survives. -/
theorem create_secret (junk : Data) (sf t : Nat) (rnd : List Nat) (hlen : rnd.length = 19) :
    (createData junk sf t rnd).secret = rnd.set 18 (rnd.getD 18 0 &&& 63) ++ List.replicate 13 0 ∧
    (createData junk sf t rnd).birthday = birthdayEncode t ∧
    (createData junk sf t rnd).features = sf := by
  refine ⟨?_, rfl, rfl⟩
  simp only [createData, SECRET_SIZE, SECRET_BUFFER_SIZE, CLEAR_MASK, hlen, Nat.sub_self, List.replicate_zero, List.append_nil]
  rw [List.take_of_length_le (by omega)]

/-- the map from the 150 bits delivered by the random source to the secret is injective:
two outputs that differ in any of the 150 bits give different secrets. -/
theorem create_secret_inj (r1 r2 : List Nat) (h1 : r1.length = 19) (h2 : r2.length = 19)
    (h : r1.set 18 (r1.getD 18 0 &&& 63) = r2.set 18 (r2.getD 18 0 &&& 63)) :
    r1.take 18 = r2.take 18 ∧ r1.getD 18 0 % 64 = r2.getD 18 0 % 64 := by
  constructor
  · simpa [List.take_set_of_le] using congrArg (List.take 18) h
  · simpa [List.getD, List.getElem?_set_self, h1, h2, and_63] using congrArg (fun l => l.getD 18 0) h

/-- the result does not depend on what the fresh block contained. -/
theorem create_junk_independent (j1 j2 : Data) (sf t : Nat) (rnd : List Nat) :
    createData j1 sf t rnd = createData j2 sf t rnd := rfl

/-- non-vacuity: 19 bytes of all-ones give the all-ones 150-bit secret. -/
example : (createData default 0 0 (List.replicate 19 255)).secret = List.replicate 18 255 ++ [63] ++ List.replicate 13 0 := by
  decide +kernel

end Polyseed.C18
