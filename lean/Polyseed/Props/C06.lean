import Polyseed.Lemmas.Api
import Polyseed.Lemmas.Storage
import Polyseed.Lemmas.Gf
import Polyseed.Lemmas.Heap
/-!
# C06 — serialized seeds are lossless, canonical and strictly validated

`dataStore`/`dataLoad` model `storage.c`, `store`/`load` model the API functions
(tied to the code by suites S-store and S-api).  The acceptance theorem is for
EVERY list of 32 bytes.
-/
namespace Polyseed.C06

/-- The bytes are exactly 'POLYSEED' ‖ LE16(features<<10 | birthday) ‖ 19 secret bytes ‖ FF ‖ LE16(0x7000 | check value). -/
theorem store_bytes (d : Data) (h : d.WF) :
    store d = [80, 79, 76, 89, 83, 69, 69, 68]
      ++ [(d.features * 1024 + d.birthday) % 256, (d.features * 1024 + d.birthday) / 256]
      ++ d.secret.take 19
      ++ [255]
      ++ [(0x7000 + d.checksum) % 256, (0x7000 + d.checksum) / 256] := by
  have hb := h.birthday_lt
  have hf := h.features_lt
  have hc := h.checksum_lt
  rw [store, dataStore_eq, shl_or _ _ DATE_BITS 1024 rfl hb, footer_or _ hc, store16_of_lt (by omega), store16_of_lt (by omega)]
  simp only [STORAGE_HEADER, EXTRA_BYTE, SECRET_SIZE, List.append_assoc]

theorem store_length (d : Data) (h : d.WF) : (store d).length = 32 := by
  rw [store_bytes d h]
  simp [h.secret_len, SECRET_BUFFER_SIZE]

/-- Storing a canonical, supported seed and loading the bytes yields the identical seed (whenever memory is available). -/
theorem load_store (cfg : Cfg) (lib : Lib) (d : Data) (w w1 : World) (e : Event) (b : Nat) (junk : Data)
    (hd : d.Canon) (hs : featuresSupported lib.reserved d.features = true)
    (ha : doAlloc cfg lib w = (some (b, junk), e, w1)) :
    (load cfg lib (store d) w).out = (.ok, some b) ∧ (load cfg lib (store d) w).lib.get b = some d := by
  have hl := dataLoad_dataStore d hd.toWF
  have hc : polyCheck (d.checksum :: dataToPoly d) = true := (polyCheck_cons_iff _ _).mpr hd.checksum_ok
  unfold store
  rw [load_ok ha hl hc hs]
  exact ⟨rfl, Lib.get_put_self ..⟩

/-- Acceptance: `load` returns OK for a 32-byte buffer exactly when the buffer is byte-for-byte the
serialization of a canonical seed with supported features — and that seed is what it hands out. -/
theorem load_ok_iff (cfg : Cfg) (lib : Lib) (buf : List Nat) (w w1 : World) (e : Event) (b : Nat) (junk : Data)
    (hlen : buf.length = 32) (hbytes : BytesLt buf) (ha : doAlloc cfg lib w = (some (b, junk), e, w1)) :
    (load cfg lib buf w).out.1 = .ok ↔
      ∃ d, d.Canon ∧ featuresSupported lib.reserved d.features = true ∧ store d = buf ∧
        (load cfg lib buf w).lib.get b = some d := by
  constructor
  · intro h
    rcases load_cases buf ha with ⟨_, e⟩ | ⟨d, hl, ⟨_, e⟩ | ⟨_, _, e⟩ | ⟨hc, hs, e⟩⟩ <;> rw [e] at h ⊢
    · cases h
    · cases h
    · cases h
    · obtain ⟨hwf, hst⟩ := dataLoad_ok_inv buf d hlen hbytes hl
      exact ⟨d, ⟨hwf, (polyCheck_cons_iff _ _).mp hc⟩, hs, hst, Lib.get_put_self ..⟩
  · rintro ⟨d, hd, hs, hst, _⟩
    rw [← hst]
    exact congrArg Prod.fst (load_store cfg lib d w w1 e b junk hd hs ha).1

/-- Consequently: acceptance implies that storing the loaded seed reproduces the buffer. -/
theorem store_of_loaded (cfg : Cfg) (lib : Lib) (buf : List Nat) (w w1 : World) (e : Event) (b : Nat) (junk : Data)
    (hlen : buf.length = 32) (hbytes : BytesLt buf) (ha : doAlloc cfg lib w = (some (b, junk), e, w1))
    (h : (load cfg lib buf w).out.1 = .ok) :
    ∃ d, (load cfg lib buf w).lib.get b = some d ∧ store d = buf := by
  obtain ⟨d, _, _, hst, hg⟩ := (load_ok_iff cfg lib buf w w1 e b junk hlen hbytes ha).mp h
  exact ⟨d, hg, hst⟩

/-- well-formedness of a 32-byte image, field by field (independent of the code's expression of it) -/
def WellFormedImage (buf : List Nat) : Prop :=
  buf.take 8 = [80, 79, 76, 89, 83, 69, 69, 68] ∧ buf.getD 9 0 < 128 ∧ buf.getD 28 0 < 64 ∧
    buf.getD 29 0 = 255 ∧ buf.getD 31 0 / 8 = 14

/-- Status precedence for every buffer: memory, then format, then checksum, then unsupported; no seed unless OK. -/
theorem load_status (cfg : Cfg) (lib : Lib) (buf : List Nat) (w : World) :
    let r := load cfg lib buf w
    (∀ e w1, doAlloc cfg lib w = (none, e, w1) → r.out = (.memory, none)) ∧
    (∀ a e w1, doAlloc cfg lib w = (some a, e, w1) →
      (dataLoad buf = (.format, none) → r.out = (.format, none) ∧ r.lib = lib) ∧
      (∀ d, dataLoad buf = (.ok, some d) →
        (polyCheck (d.checksum :: dataToPoly d) = false → r.out = (.checksum, none) ∧ r.lib = lib) ∧
        (polyCheck (d.checksum :: dataToPoly d) = true → featuresSupported lib.reserved d.features = false →
          r.out = (.unsupported, none) ∧ r.lib = lib))) := by
  refine ⟨fun e w1 ha => by rw [load_memory ha], fun ⟨b, junk⟩ e w1 ha => ⟨fun hl => ?_, fun d hl => ⟨fun hc => ?_, fun hc hs => ?_⟩⟩⟩
  · rw [load_format ha hl]; exact ⟨rfl, rfl⟩
  · rw [load_checksum ha hl hc]; exact ⟨rfl, rfl⟩
  · rw [load_unsupported ha hl hc hs]; exact ⟨rfl, rfl⟩

/-- the format status is returned exactly for images that are not well-formed (all byte lists of length 32). -/
theorem dataLoad_format_iff (buf : List Nat) (hlen : buf.length = 32) (hbytes : BytesLt buf) :
    dataLoad buf = (.format, none) ↔ ¬ WellFormedImage buf := by
  rw [dataLoad_eq buf hbytes]
  unfold WellFormedImage
  split
  · rename_i h; exact ⟨fun e => (by cases e), fun n => (n h).elim⟩
  · rename_i h; exact ⟨fun _ => h, fun _ => rfl⟩

/-- non-vacuity: the first published storage vector is the image of a canonical seed. -/
def seed1 : Data :=
  { birthday := 1, features := 0, checksum := 1427,
    secret := [0xdd, 0x76, 0xe7, 0x35, 0x9a, 0x0d, 0xed, 0x37, 0xcd, 0x0f, 0xf0, 0xf3, 0xc8, 0x29, 0xa5, 0xae, 0x01, 0x67, 0x33,
               0, 0, 0, 0, 0, 0, 0, 0, 0, 0, 0, 0, 0] }

example : seed1.Canon :=
  { birthday_lt := by decide, features_lt := by decide, checksum_lt := by decide, secret_len := by decide,
    secret_bytes := by decide, secret_top := by decide, secret_pad := by decide, checksum_ok := by decide +kernel }

example : store seed1 = [0x50, 0x4f, 0x4c, 0x59, 0x53, 0x45, 0x45, 0x44, 0x01, 0x00, 0xdd, 0x76, 0xe7, 0x35, 0x9a, 0x0d, 0xed, 0x37,
    0xcd, 0x0f, 0xf0, 0xf3, 0xc8, 0x29, 0xa5, 0xae, 0x01, 0x67, 0x33, 0xff, 0x93, 0x75] := by decide +kernel

end Polyseed.C06
