import Polyseed.Model.Lang
/-! The two search loops: a returned index compares equal; and which index is returned. -/
namespace Polyseed

theorem bsearchAux_sound {α} (c : α → Int) (ws : Array α) :
    ∀ fuel l u r, bsearchAux c ws fuel l u = some r → ∃ h : r < ws.size, c ws[r] = 0 ∧ l ≤ r ∧ r < u := by
  intro fuel l u r h
  -- cases 2 and 3 go on left and right of the probe, case 4 returns it, the others return nothing
  fun_induction bsearchAux c ws fuel l u
  case case2 ih =>
    obtain ⟨h1, h2, h3, h4⟩ := ih h
    exact ⟨h1, h2, h3, by omega⟩
  case case3 ih =>
    obtain ⟨h1, h2, h3, h4⟩ := ih h
    exact ⟨h1, h2, by omega, h4⟩
  case case4 hidx _ _ _ =>
    rw [← Option.some.inj h]
    exact ⟨hidx, by omega, by omega, by omega⟩
  all_goals cases h

theorem linearSearch_sound {α} (c : α → Int) : ∀ (ws : List α) (j0 r : Nat), linearSearch c ws j0 = some r →
    ∃ (k : Nat) (hk : k < ws.length), r = j0 + k ∧ c ws[k] = 0 := by
  intro ws j0 r h
  fun_induction linearSearch c ws j0
  case case1 => cases h
  case case2 hz => cases h; exact ⟨0, Nat.zero_lt_succ _, rfl, hz⟩
  case case3 ih =>
    obtain ⟨k, hk, rfl, hz⟩ := ih h
    exact ⟨k + 1, Nat.succ_lt_succ hk, by omega, hz⟩

/-- glibc's loop returns the index at which the key compares equal when it compares greater with everything left of it and smaller with everything right of it -/
theorem bsearch_of_signs {α} (c : α → Int) (ws : Array α) (i : Nat) (hi : i < ws.size) (h0 : c ws[i] = 0)
    (hl : ∀ j (hj : j < ws.size), j < i → 0 < c ws[j]) (hr : ∀ j (hj : j < ws.size), i < j → c ws[j] < 0) :
    bsearch c ws = some i := by
  have key : ∀ fuel l u, l ≤ i → i < u → u ≤ ws.size → u - l < fuel →
      bsearchAux c ws fuel l u = some i := by
    intro fuel
    induction fuel with
    | zero => intro l u _ _ _ h; omega
    | succ f ih =>
      intro l u hli hiu hu hf
      have hidx : (l + u) / 2 < ws.size := by omega
      simp only [bsearchAux, show l < u by omega, hidx, ↓reduceIte, ↓reduceDIte]
      rcases Nat.lt_trichotomy ((l + u) / 2) i with h | h | h
      · have := hl _ hidx h
        rw [if_neg (by omega), if_pos (by omega)]
        exact ih _ _ (by omega) hiu hu (by omega)
      · subst h
        rw [if_neg (by omega), if_neg (by omega)]
      · rw [if_pos (hr _ hidx h)]
        exact ih _ _ hli h (by omega) (by omega)
  exact key _ _ _ (Nat.zero_le _) hi (Nat.le_refl _) (by omega)

theorem linearSearch_first {α} (c : α → Int) (ws : List α) (j0 i : Nat) (hi : i < ws.length)
    (hz : c ws[i] = 0) (hfirst : ∀ j (hj : j < i), c (ws[j]'(by omega)) ≠ 0) :
    linearSearch c ws j0 = some (j0 + i) := by
  induction ws generalizing j0 i with
  | nil => simp at hi
  | cons w ws ih =>
    cases i with
    | zero => exact if_pos hz
    | succ i =>
      have h0 : c w ≠ 0 := hfirst 0 (by omega)
      rw [linearSearch, if_neg h0, ih (j0 + 1) i (Nat.lt_of_succ_lt_succ hi) hz fun j hj => hfirst (j + 1) (by omega),
        Nat.add_right_comm, Nat.add_assoc]

/-- whatever `polyseed_lang_find_word` returns compares equal to the token under the language's comparator -/
theorem findWord_sound (L : Lang) (tok : List Nat) (i : Nat) (h : findWord L tok = some i) :
    ∃ hi : i < L.words.size, getComparer L tok L.words[i] = 0 := by
  unfold findWord langSearch at h
  split at h
  · obtain ⟨h1, h2, _, _⟩ := bsearchAux_sound _ _ _ _ _ _ h
    exact ⟨h1, h2⟩
  · obtain ⟨k, hk, rfl, hz⟩ := linearSearch_sound _ _ _ _ h
    have hk' : k < L.words.size := by simpa using hk
    exact ⟨by omega, by simpa using hz⟩

theorem findAll_sound (L : Lang) : ∀ (toks : List (List Nat)) (idx : List Nat), findAll L toks = some idx →
    idx.length = toks.length ∧ ∀ i ∈ idx, i < L.words.size := by
  intro toks idx h
  fun_induction findAll L toks generalizing idx
  case case1 => cases h; simp
  case case4 t _ i hi is his ih =>
    cases h
    obtain ⟨h1, h2⟩ := ih is his
    obtain ⟨hlt, _⟩ := findWord_sound L t i hi
    exact ⟨congrArg (· + 1) h1, List.forall_mem_cons.mpr ⟨hlt, h2⟩⟩
  all_goals cases h

end Polyseed
