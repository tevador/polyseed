import Polyseed.Model.Api
import Polyseed.Model.Canon
/-!
# C04 — key derivation receives exact, deterministic, domain-separated inputs
-/
namespace Polyseed.C04

/-- LE32 of a 32-bit value -/
def le32 (u : Nat) : List Nat := [u % 256, u / 256 % 256, u / 65536 % 256, u / 16777216 % 256]

/-- the conversion to `uint32_t` does not show in the four bytes -/
theorem store32_mod (x : Nat) : store32 (x % 2 ^ 32) = le32 x := by
  simp only [store32, le32, Nat.shiftRight_eq_div_pow, List.cons.injEq, and_true]
  omega

/-- `polyseed_keygen` invokes the injected PBKDF2 exactly once, with password = the 32-byte secret buffer,
salt = 'POLYSEED key' 00 FF FF FF ‖ LE32(coin) ‖ LE32(birthday) ‖ LE32(features) ‖ 00 00 00 00, 10000 iterations,
and the caller's key length; the key it returns is what the KDF wrote; nothing else is called. -/
theorem keygen_events (env : Env) (lib : Lib) (d : Data) (coin n : Nat)
    (hc : coin < 2048) (hb : d.birthday < 1024) (hf : d.features < 32) :
    keygen env lib d coin n =
      (env.kdf lib.deps.pbkdf2 d.secret
          ([80, 79, 76, 89, 83, 69, 69, 68, 32, 107, 101, 121, 0, 255, 255, 255] ++ le32 coin ++ le32 d.birthday ++ le32 d.features ++ [0, 0, 0, 0])
          10000 n,
       [Event.kdf lib.deps.pbkdf2 d.secret
          ([80, 79, 76, 89, 83, 69, 69, 68, 32, 107, 101, 121, 0, 255, 255, 255] ++ le32 coin ++ le32 d.birthday ++ le32 d.features ++ [0, 0, 0, 0])
          10000 n
          (env.kdf lib.deps.pbkdf2 d.secret
            ([80, 79, 76, 89, 83, 69, 69, 68, 32, 107, 101, 121, 0, 255, 255, 255] ++ le32 coin ++ le32 d.birthday ++ le32 d.features ++ [0, 0, 0, 0])
            10000 n)]) := by
  simp only [keygen, keygenSalt, KDF_NUM_ITERATIONS, store32_mod, List.append_assoc]
  rfl

/-- for a canonical seed the password is the 19 secret bytes zero-padded to 32 bytes. -/
theorem keygen_password (d : Data) (h : d.WF) :
    d.secret = d.secret.take 19 ++ List.replicate 13 0 :=
  (List.take_append_drop 19 d.secret).symm.trans (congrArg _ h.secret_pad)

/-- the KDF inputs as a function of the seed and the coin -/
def kdfArgs (d : Data) (coin : Nat) : List Nat × List Nat := (d.secret, keygenSalt d coin)

theorem le32_inj (a b : Nat) (ha : a < 2 ^ 32) (hb : b < 2 ^ 32) (h : le32 a = le32 b) : a = b := by
  simp only [le32, List.cons.injEq, and_true] at h
  omega

/-- Two seeds that differ in secret, coin, birthday or features produce different KDF inputs. -/
theorem kdfArgs_inj (d d' : Data) (c c' : Nat) (hc : c < 2048) (hc' : c' < 2048)
    (hb : d.birthday < 1024) (hb' : d'.birthday < 1024) (hf : d.features < 32) (hf' : d'.features < 32)
    (h : kdfArgs d c = kdfArgs d' c') :
    d.secret = d'.secret ∧ c = c' ∧ d.birthday = d'.birthday ∧ d.features = d'.features := by
  simp only [kdfArgs, keygenSalt, Prod.mk.injEq, store32_mod, List.append_assoc,
    List.cons_append, List.nil_append, List.cons.injEq, true_and] at h
  -- the common 16-byte prefix is gone: `hsalt` equates the three `le32` blocks followed by the zero tail
  obtain ⟨hs, hsalt⟩ := h
  obtain ⟨h1, hsalt⟩ := List.append_inj hsalt rfl
  obtain ⟨h2, hsalt⟩ := List.append_inj hsalt rfl
  obtain ⟨h3, -⟩ := List.append_inj hsalt rfl
  exact ⟨hs, le32_inj _ _ (by omega) (by omega) h1, le32_inj _ _ (by omega) (by omega) h2,
    le32_inj _ _ (by omega) (by omega) h3⟩

/-- the KDF inputs depend on nothing but (secret buffer, birthday, features, coin): any two histories that
reach seeds with equal fields give identical calls — checksum and everything else are irrelevant. -/
theorem kdfArgs_path_independent (env : Env) (lib : Lib) (d d' : Data) (coin n : Nat)
    (hs : d.secret = d'.secret) (hb : d.birthday = d'.birthday) (hf : d.features = d'.features) :
    keygen env lib d coin n = keygen env lib d' coin n := by
  simp only [keygen, keygenSalt, hs, hb, hf]

/-- keygen does not change the library state: it is a function returning only the key and its events
(the model has no way to write to the seed or read the key afterwards; tie: S-api compares the key buffer
with what the KDF stub wrote and the seed before/after). -/
theorem keygen_single_call (env : Env) (lib : Lib) (d : Data) (coin n : Nat) :
    (keygen env lib d coin n).2.length = 1 := rfl

/-- non-vacuity: the salt of the first test vector (coin 0, birthday 1, features 0). -/
example : keygenSalt { birthday := 1, features := 0, secret := [], checksum := 0 } 0 =
    [0x50, 0x4f, 0x4c, 0x59, 0x53, 0x45, 0x45, 0x44, 0x20, 0x6b, 0x65, 0x79, 0x00, 0xff, 0xff, 0xff,
     0, 0, 0, 0, 1, 0, 0, 0, 0, 0, 0, 0, 0, 0, 0, 0] := by decide

end Polyseed.C04
