import Polyseed.Model.Canon
/-! How well-formed seeds are put together: 19 secret bytes with the top two bits clear, zero padding. -/
namespace Polyseed

theorem Data.WF.secret_len_ge {d : Data} (h : d.WF) : 19 ≤ d.secret.length := by rw [h.secret_len]; decide

theorem Data.WF.of_bytes {B F k : Nat} {bytes : List Nat} (hB : B < 1024) (hF : F < 32) (hk : k < 2048)
    (hl : bytes.length = 19) (hb : ∀ b ∈ bytes, b < 256) (h18 : bytes.getD 18 0 < 64) :
    (Data.mk B F (bytes ++ List.replicate 13 0) k).WF where
  birthday_lt := hB
  features_lt := hF
  checksum_lt := hk
  secret_len := by simp [hl, SECRET_BUFFER_SIZE]
  secret_bytes := fun b h => (List.mem_append.mp h).elim (hb b) fun h => by rw [List.eq_of_mem_replicate h]; decide
  secret_top := by
    show (bytes ++ _).getD 18 0 < 64
    rwa [List.getD, List.getElem?_append_left (by omega)]
  secret_pad := List.drop_left' hl

end Polyseed
