import Polyseed.Lemmas.Tables
import Polyseed.Gen.L5
import Polyseed.Pinned.L5
/-! Kernel-evaluated facts about language 5 of the registry AS THE CURRENT TREE HAS IT (Gen is regenerated on every run). -/
namespace Polyseed.Tables.T5

/-- the list is exactly the list published at the pinned release (name, flags, separator, all 2048 words) -/
theorem frozen : Gen.L5.lang = Pinned.L5.lang := rfl

/-- 2048 NUL-free, space-free, non-empty words in the order the library's search needs; no two words share their first
four accent-stripped letters (languages that allow abbreviation); an empty token is not recognised -/
theorem passes : langChecks Gen.L5.lang = true := by decide_table Gen.L5.lang Gen.L5.wordsList

/-- an all-ASCII, non-composing language with a plain space as separator -/
theorem asciiOk : asciiCheck Gen.L5.lang = true := by decide_table Gen.L5.lang Gen.L5.wordsList

end Polyseed.Tables.T5
