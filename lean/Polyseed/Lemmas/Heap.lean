import Polyseed.Model.Api
/-! The heap of live seed blocks as an association list: lookup after put / update / del. -/
namespace Polyseed

def Lib.keys (lib : Lib) : List Nat := lib.heap.map (·.1)

theorem lookup_cons (x k : Nat) (v : Data) (ps : List (Nat × Data)) :
    List.lookup x ((k, v) :: ps) = if x = k then some v else List.lookup x ps := by
  rw [List.lookup_cons]
  split <;> simp_all

theorem lookup_map_update (h : List (Nat × Data)) (b : Nat) (d : Data) (x : Nat) :
    (h.map (fun p => if p.1 == b then (b, d) else p)).lookup x =
      if x = b then (h.lookup b).map (fun _ => d) else h.lookup x := by
  simp only [beq_iff_eq]
  induction h with
  | nil => simp
  | cons p ps ih =>
    obtain ⟨k, v⟩ := p
    by_cases hk : k = b
    · subst hk
      simp only [List.map_cons, ↓reduceIte, lookup_cons, ih]
      split <;> rfl
    · simp only [List.map_cons, hk, Ne.symm hk, ↓reduceIte, lookup_cons, ih]
      by_cases hx : x = k
      · simp [hx, hk]
      · simp [hx]

theorem lookup_filter_ne (h : List (Nat × Data)) (b x : Nat) :
    (h.filter (fun p => p.1 != b)).lookup x = if x = b then none else h.lookup x := by
  induction h with
  | nil => simp
  | cons p ps ih =>
    obtain ⟨k, v⟩ := p
    by_cases hk : k = b
    · subst hk
      simp only [List.filter, bne_self_eq_false, ih, lookup_cons]
      split <;> rfl
    · have hkb : (k != b) = true := by simpa using hk
      simp only [List.filter, hkb, lookup_cons, ih]
      by_cases hx : x = k
      · simp [hx, hk]
      · simp [hx]

theorem Lib.get_update (lib : Lib) (b : Nat) (d : Data) (x : Nat) :
    (lib.update b d).get x = if x = b then (lib.get b).map (fun _ => d) else lib.get x := by
  simp only [Lib.get, Lib.update, lookup_map_update]

theorem Lib.get_put (lib : Lib) (b : Nat) (d : Data) (x : Nat) :
    (lib.put b d).get x = if x = b then some d else lib.get x := by
  simp only [Lib.get, Lib.put, lookup_cons, lookup_filter_ne]
  by_cases hx : x = b <;> simp [hx]

theorem Lib.get_put_self (lib : Lib) (b : Nat) (d : Data) : (lib.put b d).get b = some d := by
  rw [Lib.get_put, if_pos rfl]

theorem Lib.get_del (lib : Lib) (b : Nat) (x : Nat) :
    (lib.del b).get x = if x = b then none else lib.get x := by
  simp only [Lib.get, Lib.del, lookup_filter_ne]

theorem Lib.keys_update (lib : Lib) (b : Nat) (d : Data) : (lib.update b d).keys = lib.keys := by
  simp only [Lib.keys, Lib.update, List.map_map]
  refine List.map_congr_left fun p _ => ?_
  show (if p.1 == b then (b, d) else p).1 = p.1
  split
  · next h => exact (eq_of_beq h).symm
  · rfl

theorem Lib.keys_put (lib : Lib) (b : Nat) (d : Data) (h : b ∉ lib.keys) : (lib.put b d).keys = b :: lib.keys := by
  have : lib.heap.filter (fun p => p.1 != b) = lib.heap :=
    List.filter_eq_self.mpr fun p hp => bne_iff_ne.mpr fun hpb => h (List.mem_map.mpr ⟨p, hp, hpb⟩)
  simp only [Lib.keys, Lib.put, List.map_cons, this]

theorem Lib.keys_del (lib : Lib) (b : Nat) : (lib.del b).keys = lib.keys.filter (· != b) := by
  simp only [Lib.keys, Lib.del, List.filter_map]
  rfl

theorem Lib.mem_keys_iff (lib : Lib) (b : Nat) : b ∈ lib.keys ↔ ∃ d, lib.get b = some d := by
  rw [← Option.isSome_iff_exists, Lib.get, List.lookup_isSome_iff, Lib.keys, List.mem_map]
  simp only [beq_iff_eq, eq_comm (a := b)]

end Polyseed
