import Polyseed.Model.Step
import Polyseed.Lemmas.Api
import Polyseed.Lemmas.Decode
/-!
# The ways one API call can end

Every operation of `step` ends in one of eight ways (`Exit`): the two configuration calls; quietly; out of memory;
refused after a block was taken (the block is wiped and returned inside the call); with a new seed in the fresh block;
having freed its argument; having re-keyed its argument.  `step_exit` is the case analysis over the fourteen
operations and their exit paths; what the property files say about every single call (ledger, served dependencies,
frame, invariants) is read off the eight cases.
-/
namespace Polyseed

/-- a dependency call made through the injected table that neither takes nor returns a block -/
def Plain (d : Deps) : Event → Prop
  | .alloc f _ none => f = d.alloc
  | .alloc _ _ (some _) => False
  | .free _ _ => False
  | .zeroBlock _ _ _ => False
  | .zeroStack f _ _ => f = d.memzero
  | .rand f _ _ => f = d.randbytes
  | .time f _ => f = d.time
  | .kdf f _ _ _ _ _ => f = d.pbkdf2
  | .nfc f _ _ => f = d.nfc
  | .nfkd f _ _ => f = d.nfkd

/-- where the data of a new seed comes from -/
inductive Born (cfg : Cfg) (w1 : World) : Op → Data → Prop
  | create (f : Nat) (junk : Data) :
      Born cfg w1 (.create f) (createData junk (makeFeatures (f % 2 ^ 32)) (w1.times.headD 0) (w1.rands.headD []))
  | decode {s : List Nat} {coin : Nat} {L : Lang} {toks : List (List Nat)} {idx : List Nat} (hL : L ∈ cfg.langs)
      (hn : toks.length = cfg.numWords) (hf : findAll L toks = some idx) (hc : polyCheck (applyCoin idx coin) = true) :
      Born cfg w1 (.decode s coin) (polyToData (applyCoin idx coin))
  | decodeExplicit {s : List Nat} {coin li : Nat} {toks : List (List Nat)} {idx : List Nat}
      (hn : toks.length = cfg.numWords) (hf : findAll (langAt cfg li) toks = some idx)
      (hc : polyCheck (applyCoin idx coin) = true) :
      Born cfg w1 (.decodeExplicit s coin li) (polyToData (applyCoin idx coin))
  | load {buf : List Nat} {d : Data} (hl : dataLoad buf = (.ok, some d)) (hc : polyCheck (d.checksum :: dataToPoly d) = true) :
      Born cfg w1 (.load buf) d

/-- how the call `op`, made in state `lib` with the oracle answers `w`, can end; `pre` and `post` stand for the call's
other dependency calls (wipes of temporaries, normalisers, KDF, clock, random source) -/
inductive Exit (cfg : Cfg) (env : Env) (lib : Lib) (w : World) : Op → StepRes → Prop
  | inject (d : Deps) : Exit cfg env lib w (.inject d) ⟨Polyseed.inject lib d, .unit, [], w⟩
  | enable (m : Nat) : Exit cfg env lib w (.enable m) ⟨(Polyseed.enable lib m).1, .num (Polyseed.enable lib m).2, [], w⟩
  /-- no block taken or returned, no seed touched: queries, encode, keygen, store, a dead handle, `free(NULL)`, and the
  exits of the constructors that come before their allocation -/
  | quiet {op : Op} {out : Out} {evs : List Event} (hev : ∀ e ∈ evs, Plain lib.deps e) : Exit cfg env lib w op ⟨lib, out, evs, w⟩
  | nomem {op : Op} {out : Out} {evs : List Event} {e : Event} {w1 : World} (ha : doAlloc cfg lib w = (none, e, w1))
      (hev : ∀ x ∈ evs, Plain lib.deps x) : Exit cfg env lib w op ⟨lib, out, evs, w1⟩
  /-- a block was taken, then the call failed: the block is wiped and returned before the call returns -/
  | refused {op : Op} {out : Out} {pre post : List Event} {b : Nat} {junk : Data} {w1 : World}
      (ha : doAlloc cfg lib w = (some (b, junk), allocEv cfg lib b, w1))
      (hpre : ∀ e ∈ pre, Plain lib.deps e) (hpost : ∀ e ∈ post, Plain lib.deps e) :
      Exit cfg env lib w op ⟨lib, out, pre ++ allocEv cfg lib b :: (freeEvents cfg lib b ++ post), w1⟩
  /-- a constructor succeeded: the new seed `d` sits in the fresh block `b`, whose previous contents `junk` are gone.
  After the allocation the call consumes no further allocator answer (`hal`, for `C15.Inv`) and random answers from the
  front only (`hr`, for `OraclesOK` in C13). -/
  | made {op : Op} {lo : Option Nat} {pre post : List Event} {b : Nat} {junk d : Data} {w1 w2 : World}
      (ha : doAlloc cfg lib w = (some (b, junk), allocEv cfg lib b, w1))
      (hpre : ∀ e ∈ pre, Plain lib.deps e) (hpost : ∀ e ∈ post, Plain lib.deps e)
      (hal : w2.allocs = w1.allocs) (hr : ∀ r ∈ w2.rands, r ∈ w1.rands) (hd : Born cfg w1 op d) :
      Exit cfg env lib w op ⟨lib.put b d, .status .ok (some b) lo, pre ++ allocEv cfg lib b :: post, w2⟩
  | freed {b : Nat} {d : Data} (hg : lib.get b = some d) :
      Exit cfg env lib w (.free (some b)) ⟨lib.del b, .unit, freeEvents cfg lib b, w⟩
  /-- `polyseed_crypt` of a live seed, with the mask `m` the KDF returned (`hm`: so that what is assumed of the KDF's
  output, bytes, holds of `m`) -/
  | rekeyed {h : Nat} {pw : List Nat} {d : Data} {evs : List Event} (m : List Nat) (hg : lib.get h = some d)
      (hm : ∃ f p s it n, m = env.kdf f p s it n) (hev : ∀ e ∈ evs, Plain lib.deps e) :
      Exit cfg env lib w (.crypt h pw) ⟨lib.update h (cryptData d m), .unit, evs, w⟩

theorem plain_decompose (cfg : Cfg) (env : Env) (lib : Lib) (s : List Nat) : ∀ e ∈ (decompose cfg env lib s).2, Plain lib.deps e := by
  simp only [decompose]
  split <;> simp [Plain]

theorem plain_wipes (cfg : Cfg) (lib : Lib) : ∀ e ∈ decodeWipes cfg lib, Plain lib.deps e := by
  simp [decodeWipes, Plain]

theorem plain_append {d : Deps} {a b : List Event} (ha : ∀ e ∈ a, Plain d e) (hb : ∀ e ∈ b, Plain d e) :
    ∀ e ∈ a ++ b, Plain d e :=
  List.forall_mem_append.mpr ⟨ha, hb⟩

theorem decodeFinish_exit (cfg : Cfg) (env : Env) (lib : Lib) (op : Op) (idx : List Nat) (coin : Nat) (lo : Option Nat)
    (pre : List Event) (w : World) (hpre : ∀ e ∈ pre, Plain lib.deps e)
    (hb : polyCheck (applyCoin idx coin) = true → ∀ w1, Born cfg w1 op (polyToData (applyCoin idx coin))) :
    Exit cfg env lib w op ⟨(decodeFinish cfg lib idx coin lo pre w).lib,
      .status (decodeFinish cfg lib idx coin lo pre w).out.status (decodeFinish cfg lib idx coin lo pre w).out.seed
        (decodeFinish cfg lib idx coin lo pre w).out.langOut,
      (decodeFinish cfg lib idx coin lo pre w).events, (decodeFinish cfg lib idx coin lo pre w).w⟩ := by
  have hw := plain_wipes cfg lib
  rcases decodeFinish_cases cfg lib idx coin lo pre w with
    ⟨hc, e⟩ | ⟨_, _, hc, ha, e⟩ | ⟨_, _, _, w1, hc, ha, hs, e⟩ | ⟨_, _, _, w1, hc, ha, hs, e⟩ <;>
    rw [e]
  · exact .quiet (plain_append hpre hw)
  · cases doAlloc_event ha
    exact .nomem ha (plain_append (plain_append hpre (by simp [Plain])) hw)
  · cases doAlloc_event ha
    rw [List.append_assoc, List.append_assoc]; exact .refused ha hpre hw
  · cases doAlloc_event ha
    rw [List.append_assoc]; exact .made ha hpre hw rfl (fun _ h => h) (hb hc w1)

/-- **every call ends in one of the eight ways** -/
theorem step_exit (cfg : Cfg) (env : Env) (lib : Lib) (op : Op) (w : World) : Exit cfg env lib w op (step cfg env lib op w) := by
  have hq : ∀ {out : Out}, Exit cfg env lib w op ⟨lib, out, [], w⟩ := .quiet (by simp)
  cases op with
  | inject d => exact .inject d
  | enable m => exact .enable m
  | create f =>
    simp only [step]
    rcases create_cases cfg lib f w with ⟨_, e⟩ | ⟨_, _, _, ha, e⟩ | ⟨_, junk, _, _, _, ha, e⟩ <;> rw [e]
    · exact hq
    · cases doAlloc_event ha
      exact .nomem ha (by simp [Plain])
    · cases doAlloc_event ha
      exact .made (pre := []) ha (by simp) (by simp [Plain]) rfl (fun _ h => List.mem_of_mem_tail h) (.create f junk)
  | free h =>
    cases h with
    | none => exact hq
    | some b =>
      simp only [step]
      cases hg : lib.get b with
      | none => exact hq
      | some d => exact .freed hg
  | encode h li coin =>
    simp only [step]
    cases lib.get h with
    | none => exact hq
    | some d =>
      refine .quiet ?_
      simp only [encode]
      split
      · simp
      · split <;> simp [Plain]
  | decode s coin =>
    have hpre := plain_decompose cfg env lib s
    have hpre' := plain_append hpre (b := [detectWipe cfg lib]) (by simp [detectWipe, Plain])
    simp only [step, decode_eq]
    split
    · exact .quiet (plain_append hpre (plain_wipes cfg lib))
    · rename_i hn
      split
      · exact .quiet (plain_append hpre' (plain_wipes cfg lib))
      · rename_i hst
        refine decodeFinish_exit cfg env lib _ _ coin _ _ w hpre' fun hc w1 => ?_
        obtain ⟨L, hL, hf⟩ := phraseDecode_ok_sound cfg.langs _ (Decidable.not_not.mp hst)
        exact .decode hL (strSplit_length _ _ (Decidable.not_not.mp hn)) hf hc
  | decodeExplicit s coin li =>
    have hpre := plain_decompose cfg env lib s
    simp only [step, decodeExplicit_eq]
    split
    · exact .quiet (plain_append hpre (plain_wipes cfg lib))
    · rename_i hn
      split
      · exact .quiet (plain_append hpre (plain_wipes cfg lib))
      · rename_i idx hf
        exact decodeFinish_exit cfg env lib _ idx coin none _ w hpre fun hc w1 =>
          .decodeExplicit (strSplit_length _ _ (Decidable.not_not.mp hn)) hf hc
  | keygen h coin n =>
    simp only [step]
    cases lib.get h with
    | none => exact hq
    | some d => exact .quiet (by simp [keygen, Plain])
  | load buf =>
    simp only [step]
    rcases doAlloc_cases cfg lib w with ⟨w1, ha⟩ | ⟨b, junk, w1, ha⟩
    · rw [load_memory ha]; exact .nomem ha (by simp [Plain])
    · rcases load_cases buf ha with ⟨_, e⟩ | ⟨d, hl, ⟨_, e⟩ | ⟨_, _, e⟩ | ⟨hc, _, e⟩⟩ <;> rw [e]
      · exact .refused (pre := []) (post := []) ha (by simp) (by simp)
      · exact .refused (pre := []) ha (by simp) (by simp [Plain])
      · exact .refused (pre := []) ha (by simp) (by simp [Plain])
      · exact .made (pre := []) ha (by simp) (by simp [Plain]) rfl (fun _ h => h) (.load hl hc)
  | crypt h pw =>
    simp only [step]
    cases hg : lib.get h with
    | none => exact hq
    | some d =>
      exact .rekeyed _ hg ⟨_, _, _, _, _, rfl⟩ (plain_append (plain_decompose cfg env lib pw) (by simp [Plain]))
  | store h | getBirthday h | getFeature h _ | isEncrypted h => simp only [step]; cases lib.get h <;> exact hq

end Polyseed
