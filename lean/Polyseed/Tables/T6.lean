import Polyseed.Lemmas.Tables
import Polyseed.Gen.L6
import Polyseed.Pinned.L6
/-! Kernel-evaluated facts about language 6 of the registry AS THE CURRENT TREE HAS IT (Gen is regenerated on every run). -/
namespace Polyseed.Tables.T6

/-- the list is exactly the list published at the pinned release (name, flags, separator, all 2048 words) -/
theorem frozen : Gen.L6.lang = Pinned.L6.lang := rfl

/-- 2048 NUL-free, space-free, non-empty words in the order the library's search needs; no two words share their first
four accent-stripped letters (languages that allow abbreviation); an empty token is not recognised -/
theorem passes : langChecks Gen.L6.lang = true := by decide_table Gen.L6.lang Gen.L6.wordsList

/-- an all-ASCII, non-composing language with a plain space as separator -/
theorem asciiOk : asciiCheck Gen.L6.lang = true := by decide_table Gen.L6.lang Gen.L6.wordsList

end Polyseed.Tables.T6
