import Polyseed.Lemmas.Tables
import Polyseed.Gen.L3
import Polyseed.Pinned.L3
/-! Kernel-evaluated facts about language 3 of the registry AS THE CURRENT TREE HAS IT (Gen is regenerated on every run). -/
namespace Polyseed.Tables.T3

/-- the list is exactly the list published at the pinned release (name, flags, separator, all 2048 words) -/
theorem frozen : Gen.L3.lang = Pinned.L3.lang := rfl

/-- 2048 NUL-free, space-free, non-empty words in the order the library's search needs; no two words share their first
four accent-stripped letters (languages that allow abbreviation); an empty token is not recognised -/
theorem passes : langChecks Gen.L3.lang = true := by decide_table Gen.L3.lang Gen.L3.wordsList

/-- the decision tree of `bsearch` over this list accepts it: every word and every abbreviation the rule admits is found
at the word's own index (`tableOK_of_tableCheck`) -/
theorem check : tableCheck Gen.L3.lang = true := tableCheck_of_orderCheck _ rfl ((langChecks_iff _).mp passes).1

end Polyseed.Tables.T3
