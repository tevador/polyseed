import Polyseed.Model.Str
/-! `write_str` and `str_split`: words that are non-empty and space-free survive joining by single spaces and splitting
(`strSplit_joinWords`); how many tokens `str_split` stores. -/
namespace Polyseed

theorem joinWords_eq_intercalate (sep : List Nat) (ws : List (List Nat)) : joinWords sep ws = List.intercalate sep ws := by
  induction ws with
  | nil => rfl
  | cons w ws ih =>
    cases ws with
    | nil => simp [joinWords, List.intercalate]
    | cons w2 ws =>
      rw [joinWords, ih]
      · simp [List.intercalate, List.intersperse, List.append_assoc]
      · simp

theorem joinWords_all (sep : List Nat) (p : Nat → Bool) (hsep : sep.all p = true) :
    ∀ ws : List (List Nat), (∀ w ∈ ws, w.all p = true) → (joinWords sep ws).all p = true := by
  intro ws
  induction ws with
  | nil => intro _; rfl
  | cons w ws ih =>
    intro h
    obtain ⟨hw, hws⟩ := List.forall_mem_cons.mp h
    cases ws with
    | nil => simpa [joinWords] using hw
    | cons w2 rest =>
      simp only [joinWords, List.all_append, Bool.and_eq_true]
      exact ⟨⟨hw, hsep⟩, ih hws⟩

theorem joinWords_length_le (sep : List Nat) (m : Nat) : ∀ (ws : List (List Nat)), (∀ w ∈ ws, w.length ≤ m) →
    (joinWords sep ws).length ≤ ws.length * m + (ws.length - 1) * sep.length := by
  intro ws
  induction ws with
  | nil => intro _; simp [joinWords]
  | cons w ws ih =>
    intro h
    obtain ⟨hw, hws⟩ := List.forall_mem_cons.mp h
    cases ws with
    | nil => simp [joinWords]; omega
    | cons w2 ws =>
      have := ih hws
      simp only [joinWords, List.length_append, List.length_cons, Nat.add_sub_cancel] at this ⊢
      rw [Nat.succ_mul (ws.length + 1) m, Nat.succ_mul ws.length sep.length]
      omega

/-- the inner loop runs over a space-free word and stops where it would stop without the word -/
theorem takeWord_append (w t : List Nat) (h : ∀ b ∈ w, b ≠ 32) (ht : takeWord t = ([], t)) :
    takeWord (w ++ t) = (w, t) := by
  induction w with
  | nil => exact ht
  | cons b bs ih =>
    obtain ⟨hb, hbs⟩ := List.forall_mem_cons.mp h
    simp only [List.cons_append, takeWord, hb, ↓reduceIte, ih hbs]

theorem splitN_nil (n : Nat) : splitN n [] = ([], false) := by cases n <;> rfl

/-- words that are non-empty and contain no space survive joining with single spaces and splitting. -/
theorem splitN_joinWords : ∀ (ws : List (List Nat)) (n : Nat), ws.length ≤ n →
    (∀ w ∈ ws, w ≠ [] ∧ ∀ b ∈ w, b ≠ 32) → splitN n (joinWords [32] ws) = (ws, false) := by
  intro ws
  induction ws with
  | nil => intro n _ _; exact splitN_nil n
  | cons w ws ih =>
    intro n hn h
    obtain ⟨⟨hne, hsp⟩, hws⟩ := List.forall_mem_cons.mp h
    obtain ⟨c, cs, rfl⟩ := List.exists_cons_of_ne_nil hne
    cases n with
    | zero => simp at hn
    | succ n =>
      cases ws with
      | nil =>
        have hs := takeWord_append (c :: cs) [] hsp rfl
        simp only [List.append_nil] at hs
        simp only [joinWords, splitN, hs, List.drop_nil, splitN_nil]
      | cons w2 rest =>
        -- the first word is taken up to its space; what follows the space is `ih`
        have hs := takeWord_append (c :: cs) (32 :: joinWords [32] (w2 :: rest)) hsp rfl
        simp only [List.cons_append] at hs
        simp only [joinWords, List.cons_append, List.append_assoc, List.nil_append, splitN, hs, List.drop_succ_cons,
          List.drop_zero, ih n (Nat.le_of_succ_le_succ hn) hws]

theorem strSplit_joinWords (ws : List (List Nat)) (n : Nat) (hn : ws.length ≤ n) (h : ∀ w ∈ ws, w ≠ [] ∧ ∀ b ∈ w, b ≠ 32) :
    strSplit n (joinWords [32] ws) = (ws, ws.length) := by
  simp [strSplit, splitN_joinWords ws n hn h]

theorem splitN_length_le : ∀ (n : Nat) (s : List Nat), (splitN n s).1.length ≤ n := by
  intro n
  induction n with
  | zero => intro s; simp [splitN]
  | succ n ih => intro s; cases s <;> simp [splitN]; exact ih _

theorem splitN_length_of_more : ∀ (n : Nat) (s : List Nat), (splitN n s).2 = true → (splitN n s).1.length = n := by
  intro n
  induction n with
  | zero => intro s _; simp [splitN]
  | succ n ih =>
    intro s h
    cases s with
    | nil => simp [splitN] at h
    | cons c cs => simpa [splitN] using ih _ h

/-- when `str_split` returns the expected count it stored that many tokens -/
theorem strSplit_length (n : Nat) (s : List Nat) (h : (strSplit n s).2 = n) : (strSplit n s).1.length = n := by
  simp only [strSplit] at h ⊢
  cases hm : (splitN n s).2
  · simpa [hm] using h
  · exact splitN_length_of_more n s hm

end Polyseed
