import Polyseed.Props.C15
/-!
# C14 — arbitrary phrases, passwords and buffers are handled safely and totally

What a source-level model can carry: every model function is total (structural or fuel-bounded recursion:
Lean accepted the definitions, so termination is proved, not assumed); the statuses are the documented
ones; the tokeniser and the lazy normaliser stay within their capacities; a failing call hands out no seed.
That the COMPILED code performs only the accesses the model performs is observed, not proved
(guard pages, ASan, UBSan on the explored inputs).
-/
namespace Polyseed.C14

/-- `str_split` never stores more than 16 tokens and never returns more than 17, for every string -/
theorem strSplit_bounds (s : List Nat) : (strSplit 16 s).1.length ≤ 16 ∧ (strSplit 16 s).2 ≤ 17 := by
  have := splitN_length_le 16 s
  simp only [strSplit]
  refine ⟨this, ?_⟩
  split <;> omega

/-- the lazy normaliser's output fits the phrase buffer (given the callback's contract for non-ASCII input) -/
theorem lazyNfkd_length (strSize : Nat) (hs : 0 < strSize) (nfkd : List Nat → List Nat) (s : List Nat)
    (hcb : (nfkd s).length < strSize) : (lazyNfkd strSize nfkd s).1.length < strSize := by
  simp only [lazyNfkd]
  split
  · exact hcb
  · simp only [List.length_take]; omega

/-- `polyseed_load` returns one of: OK, format, checksum, unsupported, memory -/
theorem load_statuses (cfg : Cfg) (lib : Lib) (buf : List Nat) (w : World) :
    (load cfg lib buf w).out.1 ∈ [Status.ok, .format, .checksum, .unsupported, .memory] := by
  rcases ha : doAlloc cfg lib w with ⟨_ | ⟨b, junk⟩, e, w1⟩
  · rw [load_memory ha]; simp
  · rcases load_cases buf ha with ⟨_, e⟩ | ⟨d, _, ⟨_, e⟩ | ⟨_, _, e⟩ | ⟨_, _, e⟩⟩ <;> rw [e] <;> simp

/-- `polyseed_create` returns one of: OK, unsupported, memory -/
theorem create_statuses (cfg : Cfg) (lib : Lib) (f : Nat) (w : World) :
    (create cfg lib f w).out.1 ∈ [Status.ok, .unsupported, .memory] := by
  rcases create_cases cfg lib f w with ⟨_, e⟩ | ⟨_, _, _, _, e⟩ | ⟨_, _, _, _, _, _, e⟩ <;> rw [e] <;> simp

/-- `polyseed_decode` never returns the format status; `polyseed_decode_explicit` neither format nor multiple-languages -/
theorem decode_statuses (cfg : Cfg) (env : Env) (lib : Lib) (s : List Nat) (coin : Nat) (w : World) :
    (decode cfg env lib s coin w).out.status ≠ .format := by
  rw [decode_eq]
  simp only
  split
  · simp
  · split
    · rw [phraseDecode_spec]; split <;> simp
    · intro hf; exact absurd (hf ▸ decodeFinish_statuses ..) (by simp)

theorem decodeExplicit_statuses (cfg : Cfg) (env : Env) (lib : Lib) (s : List Nat) (coin : Nat) (L : Lang) (w : World) :
    (decodeExplicit cfg env lib s coin L w).out.status ∉ [Status.format, .multLang] := by
  rw [decodeExplicit_eq]
  split
  · simp
  · split
    · simp
    · intro hf
      simp only [List.mem_cons, List.not_mem_nil, or_false] at hf
      rcases hf with hf | hf <;> exact absurd (hf ▸ decodeFinish_statuses ..) (by simp)

/-- A failed call leaves no seed allocated (any call, any input, any oracle, any allocation outcome). -/
theorem failed_call_no_seed (cfg : Cfg) (env : Env) (lib : Lib) (op : Op) (w : World) (hinv : C15.Inv lib w)
    (hfail : ∀ b lo, (step cfg env lib op w).out ≠ .status .ok (some b) lo) (hnofree : (step cfg env lib op w).out ≠ .unit) :
    (step cfg env lib op w).lib.keys = lib.keys :=
  (C15.failed_call_balanced cfg env lib op w hinv hfail hnofree).2

/-- inputs are values: the model's functions cannot modify the phrase, the password or the buffer they are given
(the tokeniser works on the normalised copy).  Tie: the harness compares every input before and after the call. -/
theorem input_is_value (cfg : Cfg) (env : Env) (lib : Lib) (s : List Nat) (coin : Nat) (w : World) :
    ∃ r, decode cfg env lib s coin w = r := ⟨_, rfl⟩

end Polyseed.C14
