import Polyseed.Model.Abstract
import Polyseed.Model.Api
import Polyseed.Model.Birthday
import Polyseed.Model.Canon
import Polyseed.Model.Features
import Polyseed.Model.Gf
import Polyseed.Model.Lang
import Polyseed.Model.Pack
import Polyseed.Model.Spec
import Polyseed.Model.Step
import Polyseed.Model.Storage
import Polyseed.Model.Str
import Polyseed.Model.Types
import Polyseed.Gen.Consts
import Polyseed.Gen.Funcs
import Polyseed.Gen.L0
import Polyseed.Gen.L1
import Polyseed.Gen.L2
import Polyseed.Gen.L3
import Polyseed.Gen.L4
import Polyseed.Gen.L5
import Polyseed.Gen.L6
import Polyseed.Gen.L7
import Polyseed.Gen.L8
import Polyseed.Gen.L9
import Polyseed.Gen.Registry
import Polyseed.Pinned.Consts
import Polyseed.Pinned.L0
import Polyseed.Pinned.L1
import Polyseed.Pinned.L2
import Polyseed.Pinned.L3
import Polyseed.Pinned.L4
import Polyseed.Pinned.L5
import Polyseed.Pinned.L6
import Polyseed.Pinned.L7
import Polyseed.Pinned.L8
import Polyseed.Pinned.L9
import Polyseed.Pinned.Registry
import Polyseed.Lemmas.Api
import Polyseed.Lemmas.Basic
import Polyseed.Lemmas.Canon
import Polyseed.Lemmas.Decode
import Polyseed.Lemmas.Digits
import Polyseed.Lemmas.Exit
import Polyseed.Lemmas.Gf
import Polyseed.Lemmas.Heap
import Polyseed.Lemmas.Order
import Polyseed.Lemmas.Pack
import Polyseed.Lemmas.PackSpec
import Polyseed.Lemmas.Rule
import Polyseed.Lemmas.Search
import Polyseed.Lemmas.Storage
import Polyseed.Lemmas.Str
import Polyseed.Lemmas.Tables
import Polyseed.Tables.Consts
import Polyseed.Tables.Funcs
import Polyseed.Tables.M0
import Polyseed.Tables.M1
import Polyseed.Tables.M2
import Polyseed.Tables.M3
import Polyseed.Tables.M4
import Polyseed.Tables.M5
import Polyseed.Tables.M6
import Polyseed.Tables.M7
import Polyseed.Tables.M8
import Polyseed.Tables.M9
import Polyseed.Tables.Registry
import Polyseed.Tables.T0
import Polyseed.Tables.T1
import Polyseed.Tables.T2
import Polyseed.Tables.T3
import Polyseed.Tables.T4
import Polyseed.Tables.T5
import Polyseed.Tables.T6
import Polyseed.Tables.T7
import Polyseed.Tables.T8
import Polyseed.Tables.T9
import Polyseed.Props.C01
import Polyseed.Props.C02
import Polyseed.Props.C02Phrase
import Polyseed.Props.C03
import Polyseed.Props.C04
import Polyseed.Props.C05
import Polyseed.Props.C06
import Polyseed.Props.C07
import Polyseed.Props.C08
import Polyseed.Props.C08Phrase
import Polyseed.Props.C09
import Polyseed.Props.C10
import Polyseed.Props.C11
import Polyseed.Props.C12
import Polyseed.Props.C13
import Polyseed.Props.C13Corollaries
import Polyseed.Props.C13Refine
import Polyseed.Props.C14
import Polyseed.Props.C15
import Polyseed.Props.C16
import Polyseed.Props.C17
import Polyseed.Props.C18
import Polyseed.Props.C18Served
import Polyseed.Props.C19
import Polyseed.Props.C20
import Polyseed.Props.CodeLevel
