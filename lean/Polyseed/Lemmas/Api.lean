import Polyseed.Model.Api
import Polyseed.Lemmas.Gf
import Polyseed.Lemmas.Storage
/-!
# The API functions, equation by equation

One equation per exit path of each function that allocates (`create`, `load`, the decoders' common tail `decodeFinish`),
and the exits of each taken together as one disjunction (`*_cases`): a proof about a call splits on the disjunction and
rewrites with the equation of the exit instead of unfolding the function.
-/
namespace Polyseed

theorem doAlloc_eq (cfg : Cfg) (lib : Lib) (w : World) :
    doAlloc cfg lib w = (w.allocs.headD none,
      .alloc lib.deps.alloc cfg.sizeofData ((w.allocs.headD none).map (·.1)), { w with allocs := w.allocs.tail }) := by
  unfold doAlloc
  split <;> rename_i h
  · cases w; simp only at h; subst h; rfl
  · simp [h]

theorem doAlloc_answer {cfg : Cfg} {lib : Lib} {w w1 : World} {a : Option (Nat × Data)} {e : Event}
    (h : doAlloc cfg lib w = (a, e, w1)) : w.allocs.headD none = a := by
  rw [doAlloc_eq] at h; cases h; rfl

theorem doAlloc_event {cfg : Cfg} {lib : Lib} {w w1 : World} {a : Option (Nat × Data)} {e : Event}
    (h : doAlloc cfg lib w = (a, e, w1)) : e = .alloc lib.deps.alloc cfg.sizeofData (a.map (·.1)) := by
  rw [doAlloc_eq] at h; cases h; rfl

theorem doAlloc_rands {cfg : Cfg} {lib : Lib} {w w1 : World} {a : Option (Nat × Data)} {e : Event}
    (h : doAlloc cfg lib w = (a, e, w1)) : w1.rands = w.rands := by
  rw [doAlloc_eq] at h; cases h; rfl

/-- the successful `ALLOC` of a call -/
abbrev allocEv (cfg : Cfg) (lib : Lib) (b : Nat) : Event := .alloc lib.deps.alloc cfg.sizeofData (some b)

theorem doAlloc_cases (cfg : Cfg) (lib : Lib) (w : World) :
    (∃ w1, doAlloc cfg lib w = (none, .alloc lib.deps.alloc cfg.sizeofData none, w1)) ∨
    (∃ b junk w1, doAlloc cfg lib w = (some (b, junk), allocEv cfg lib b, w1)) := by
  rw [doAlloc_eq]
  rcases w.allocs.headD none with _ | ⟨b, junk⟩
  · exact .inl ⟨_, rfl⟩
  · exact .inr ⟨b, junk, _, rfl⟩

theorem create_unsupported {cfg : Cfg} {lib : Lib} {f : Nat} {w : World}
    (h : featuresSupported lib.reserved (makeFeatures (f % 2 ^ 32)) = false) :
    create cfg lib f w = ⟨lib, (.unsupported, none), [], w⟩ := by
  simp only [create, h, Bool.not_false, ↓reduceIte]

theorem create_memory {cfg : Cfg} {lib : Lib} {f : Nat} {w w1 : World} {e : Event}
    (h : featuresSupported lib.reserved (makeFeatures (f % 2 ^ 32)) = true)
    (ha : doAlloc cfg lib w = (none, e, w1)) :
    create cfg lib f w = ⟨lib, (.memory, none), [e], w1⟩ := by
  simp only [create, h, ha, Bool.not_true, Bool.false_eq_true, ↓reduceIte]

/-- what a successful `polyseed_create` returns: the new seed in the fresh block `b`, made from the next answers of the
clock and the random source in `w1`; of the block's previous contents `junk` nothing survives -/
abbrev created (cfg : Cfg) (lib : Lib) (f b : Nat) (junk : Data) (e : Event) (w1 : World) : Res (Status × Option Nat) :=
  ⟨lib.put b (createData junk (makeFeatures (f % 2 ^ 32)) (w1.times.headD 0) (w1.rands.headD [])),
    (.ok, some b),
    [e, .time lib.deps.time (w1.times.headD 0), .rand lib.deps.randbytes SECRET_SIZE (w1.rands.headD []),
     .zeroStack lib.deps.memzero .poly cfg.sizeofPoly],
    { w1 with times := w1.times.tail, rands := w1.rands.tail }⟩

theorem create_ok {cfg : Cfg} {lib : Lib} {f : Nat} {w w1 : World} {e : Event} {b : Nat} {junk : Data}
    (h : featuresSupported lib.reserved (makeFeatures (f % 2 ^ 32)) = true)
    (ha : doAlloc cfg lib w = (some (b, junk), e, w1)) : create cfg lib f w = created cfg lib f b junk e w1 := by
  simp only [create, h, ha, Bool.not_true, Bool.false_eq_true, ↓reduceIte]

theorem create_cases (cfg : Cfg) (lib : Lib) (f : Nat) (w : World) :
    (featuresSupported lib.reserved (makeFeatures (f % 2 ^ 32)) = false ∧
      create cfg lib f w = ⟨lib, (.unsupported, none), [], w⟩) ∨
    (∃ e w1, featuresSupported lib.reserved (makeFeatures (f % 2 ^ 32)) = true ∧ doAlloc cfg lib w = (none, e, w1) ∧
      create cfg lib f w = ⟨lib, (.memory, none), [e], w1⟩) ∨
    (∃ b junk e w1, featuresSupported lib.reserved (makeFeatures (f % 2 ^ 32)) = true ∧
      doAlloc cfg lib w = (some (b, junk), e, w1) ∧ create cfg lib f w = created cfg lib f b junk e w1) := by
  cases h : featuresSupported lib.reserved (makeFeatures (f % 2 ^ 32))
  · exact .inl ⟨rfl, create_unsupported h⟩
  · rcases ha : doAlloc cfg lib w with ⟨_ | ⟨b, junk⟩, e, w1⟩
    · exact .inr (.inl ⟨e, w1, rfl, rfl, create_memory h ha⟩)
    · exact .inr (.inr ⟨b, junk, e, w1, rfl, rfl, create_ok h ha⟩)

theorem create_ok_inv {cfg : Cfg} {lib : Lib} {f : Nat} {w : World} (h : (create cfg lib f w).out.1 = .ok) :
    ∃ b junk e w1, doAlloc cfg lib w = (some (b, junk), e, w1) ∧ create cfg lib f w = created cfg lib f b junk e w1 := by
  rcases create_cases cfg lib f w with ⟨_, e⟩ | ⟨_, _, _, _, e⟩ | ⟨b, junk, ev, w1, _, ha, e⟩
  · rw [e] at h; cases h
  · rw [e] at h; cases h
  · exact ⟨b, junk, ev, w1, ha, e⟩

theorem encode_fits {cfg : Cfg} {env : Env} {lib : Lib} {d : Data} {L : Lang} {coin : Nat}
    (h : (encodeTmp L d coin).length < cfg.strSize) :
    encode cfg env lib d L coin =
      (let out := if L.compose then env.nfc lib.deps.nfc (encodeTmp L d coin) else encodeTmp L d coin
       (.ok out out.length,
        (if L.compose then [Event.nfc lib.deps.nfc (encodeTmp L d coin) out] else []) ++
          [.zeroStack lib.deps.memzero .poly cfg.sizeofPoly, .zeroStack lib.deps.memzero .strTmp cfg.strSize])) := by
  simp only [encode, Nat.not_le.mpr h, ↓reduceIte]
  cases L.compose <;> rfl

theorem load_memory {cfg : Cfg} {lib : Lib} {buf : List Nat} {w w1 : World} {e : Event}
    (ha : doAlloc cfg lib w = (none, e, w1)) :
    load cfg lib buf w = ⟨lib, (.memory, none), [e], w1⟩ := by
  simp only [load, ha]

theorem load_format {cfg : Cfg} {lib : Lib} {buf : List Nat} {w w1 : World} {e : Event} {b : Nat} {junk : Data} {st : Status}
    (ha : doAlloc cfg lib w = (some (b, junk), e, w1)) (hl : dataLoad buf = (st, none)) :
    load cfg lib buf w = ⟨lib, (st, none), [e] ++ freeEvents cfg lib b, w1⟩ := by
  simp only [load, ha, hl]

theorem load_checksum {cfg : Cfg} {lib : Lib} {buf : List Nat} {w w1 : World} {e : Event} {b : Nat} {junk d : Data} {st : Status}
    (ha : doAlloc cfg lib w = (some (b, junk), e, w1)) (hl : dataLoad buf = (st, some d))
    (hc : polyCheck (d.checksum :: dataToPoly d) = false) :
    load cfg lib buf w = ⟨lib, (.checksum, none),
      [e] ++ freeEvents cfg lib b ++ [Event.zeroStack lib.deps.memzero .poly cfg.sizeofPoly], w1⟩ := by
  simp only [load, ha, hl, hc, Bool.not_false, ↓reduceIte]

theorem load_unsupported {cfg : Cfg} {lib : Lib} {buf : List Nat} {w w1 : World} {e : Event} {b : Nat} {junk d : Data} {st : Status}
    (ha : doAlloc cfg lib w = (some (b, junk), e, w1)) (hl : dataLoad buf = (st, some d))
    (hc : polyCheck (d.checksum :: dataToPoly d) = true) (hs : featuresSupported lib.reserved d.features = false) :
    load cfg lib buf w = ⟨lib, (.unsupported, none),
      [e] ++ freeEvents cfg lib b ++ [Event.zeroStack lib.deps.memzero .poly cfg.sizeofPoly], w1⟩ := by
  simp only [load, ha, hl, hc, hs, Bool.not_false, Bool.not_true, Bool.false_eq_true, ↓reduceIte]

theorem load_ok {cfg : Cfg} {lib : Lib} {buf : List Nat} {w w1 : World} {e : Event} {b : Nat} {junk d : Data} {st : Status}
    (ha : doAlloc cfg lib w = (some (b, junk), e, w1)) (hl : dataLoad buf = (st, some d))
    (hc : polyCheck (d.checksum :: dataToPoly d) = true) (hs : featuresSupported lib.reserved d.features = true) :
    load cfg lib buf w = ⟨lib.put b d, (.ok, some b),
      [e] ++ [Event.zeroStack lib.deps.memzero .poly cfg.sizeofPoly], w1⟩ := by
  simp only [load, ha, hl, hc, hs, Bool.not_true, Bool.false_eq_true, ↓reduceIte]

theorem load_cases {cfg : Cfg} {lib : Lib} (buf : List Nat) {w w1 : World} {e : Event} {b : Nat} {junk : Data}
    (ha : doAlloc cfg lib w = (some (b, junk), e, w1)) :
    (dataLoad buf = (.format, none) ∧ load cfg lib buf w = ⟨lib, (.format, none), [e] ++ freeEvents cfg lib b, w1⟩) ∨
    ∃ d, dataLoad buf = (.ok, some d) ∧
      ((polyCheck (d.checksum :: dataToPoly d) = false ∧ load cfg lib buf w = ⟨lib, (.checksum, none),
          [e] ++ freeEvents cfg lib b ++ [Event.zeroStack lib.deps.memzero .poly cfg.sizeofPoly], w1⟩) ∨
       (polyCheck (d.checksum :: dataToPoly d) = true ∧ featuresSupported lib.reserved d.features = false ∧
          load cfg lib buf w = ⟨lib, (.unsupported, none),
            [e] ++ freeEvents cfg lib b ++ [Event.zeroStack lib.deps.memzero .poly cfg.sizeofPoly], w1⟩) ∨
       (polyCheck (d.checksum :: dataToPoly d) = true ∧ featuresSupported lib.reserved d.features = true ∧
          load cfg lib buf w = ⟨lib.put b d, (.ok, some b), [e] ++ [Event.zeroStack lib.deps.memzero .poly cfg.sizeofPoly], w1⟩)) := by
  rcases dataLoad_cases buf with hl | ⟨d, hl⟩
  · exact .inl ⟨hl, load_format ha hl⟩
  · refine .inr ⟨d, hl, ?_⟩
    cases hc : polyCheck (d.checksum :: dataToPoly d)
    · exact .inl ⟨rfl, load_checksum ha hl hc⟩
    · cases hs : featuresSupported lib.reserved d.features
      · exact .inr (.inl ⟨rfl, rfl, load_unsupported ha hl hc hs⟩)
      · exact .inr (.inr ⟨rfl, rfl, load_ok ha hl hc hs⟩)

theorem decodeFinish_checksum {cfg : Cfg} {lib : Lib} {idx : List Nat} {coin : Nat} {lo : Option Nat} {pre : List Event} {w : World}
    (hc : polyCheck (applyCoin idx coin) = false) :
    decodeFinish cfg lib idx coin lo pre w = ⟨lib, ⟨.checksum, none, lo⟩, pre ++ decodeWipes cfg lib, w⟩ := by
  simp only [decodeFinish, hc, Bool.not_false, ↓reduceIte]

theorem decodeFinish_memory {cfg : Cfg} {lib : Lib} {idx : List Nat} {coin : Nat} {lo : Option Nat} {pre : List Event} {w w1 : World} {e : Event}
    (hc : polyCheck (applyCoin idx coin) = true) (ha : doAlloc cfg lib w = (none, e, w1)) :
    decodeFinish cfg lib idx coin lo pre w = ⟨lib, ⟨.memory, none, lo⟩, pre ++ [e] ++ decodeWipes cfg lib, w1⟩ := by
  simp only [decodeFinish, hc, ha, Bool.not_true, Bool.false_eq_true, ↓reduceIte]

theorem decodeFinish_unsupported {cfg : Cfg} {lib : Lib} {idx : List Nat} {coin : Nat} {lo : Option Nat} {pre : List Event} {w w1 : World} {e : Event}
    {b : Nat} {junk : Data}
    (hc : polyCheck (applyCoin idx coin) = true) (ha : doAlloc cfg lib w = (some (b, junk), e, w1))
    (hs : featuresSupported lib.reserved (polyToData (applyCoin idx coin)).features = false) :
    decodeFinish cfg lib idx coin lo pre w =
      ⟨lib, ⟨.unsupported, none, lo⟩, pre ++ [e] ++ freeEvents cfg lib b ++ decodeWipes cfg lib, w1⟩ := by
  simp only [decodeFinish, hc, ha, hs, Bool.not_true, Bool.not_false, Bool.false_eq_true, ↓reduceIte]

theorem decodeFinish_ok {cfg : Cfg} {lib : Lib} {idx : List Nat} {coin : Nat} {lo : Option Nat} {pre : List Event} {w w1 : World} {e : Event}
    {b : Nat} {junk : Data}
    (hc : polyCheck (applyCoin idx coin) = true) (ha : doAlloc cfg lib w = (some (b, junk), e, w1))
    (hs : featuresSupported lib.reserved (polyToData (applyCoin idx coin)).features = true) :
    decodeFinish cfg lib idx coin lo pre w =
      ⟨lib.put b (polyToData (applyCoin idx coin)), ⟨.ok, some b, lo⟩, pre ++ [e] ++ decodeWipes cfg lib, w1⟩ := by
  simp only [decodeFinish, hc, ha, hs, Bool.not_true, Bool.false_eq_true, ↓reduceIte]

theorem decodeFinish_cases (cfg : Cfg) (lib : Lib) (idx : List Nat) (coin : Nat) (lo : Option Nat) (pre : List Event) (w : World) :
    (polyCheck (applyCoin idx coin) = false ∧
      decodeFinish cfg lib idx coin lo pre w = ⟨lib, ⟨.checksum, none, lo⟩, pre ++ decodeWipes cfg lib, w⟩) ∨
    (∃ e w1, polyCheck (applyCoin idx coin) = true ∧ doAlloc cfg lib w = (none, e, w1) ∧
      decodeFinish cfg lib idx coin lo pre w = ⟨lib, ⟨.memory, none, lo⟩, pre ++ [e] ++ decodeWipes cfg lib, w1⟩) ∨
    (∃ b junk e w1, polyCheck (applyCoin idx coin) = true ∧ doAlloc cfg lib w = (some (b, junk), e, w1) ∧
      featuresSupported lib.reserved (polyToData (applyCoin idx coin)).features = false ∧
      decodeFinish cfg lib idx coin lo pre w =
        ⟨lib, ⟨.unsupported, none, lo⟩, pre ++ [e] ++ freeEvents cfg lib b ++ decodeWipes cfg lib, w1⟩) ∨
    (∃ b junk e w1, polyCheck (applyCoin idx coin) = true ∧ doAlloc cfg lib w = (some (b, junk), e, w1) ∧
      featuresSupported lib.reserved (polyToData (applyCoin idx coin)).features = true ∧
      decodeFinish cfg lib idx coin lo pre w =
        ⟨lib.put b (polyToData (applyCoin idx coin)), ⟨.ok, some b, lo⟩, pre ++ [e] ++ decodeWipes cfg lib, w1⟩) := by
  cases hc : polyCheck (applyCoin idx coin)
  · exact .inl ⟨rfl, decodeFinish_checksum hc⟩
  · rcases ha : doAlloc cfg lib w with ⟨_ | ⟨b, junk⟩, e, w1⟩
    · exact .inr (.inl ⟨e, w1, rfl, rfl, decodeFinish_memory hc ha⟩)
    · cases hs : featuresSupported lib.reserved (polyToData (applyCoin idx coin)).features
      · exact .inr (.inr (.inl ⟨b, junk, e, w1, rfl, rfl, rfl, decodeFinish_unsupported hc ha hs⟩))
      · exact .inr (.inr (.inr ⟨b, junk, e, w1, rfl, rfl, rfl, decodeFinish_ok hc ha hs⟩))

/-- The common tail passes the events that preceded it and the value for `lang_out` through; nothing else depends
on them. -/
theorem decodeFinish_pre (cfg : Cfg) (lib : Lib) (idx : List Nat) (coin : Nat) (lo : Option Nat) (pre : List Event) (w : World) :
    decodeFinish cfg lib idx coin lo pre w =
      let r := decodeFinish cfg lib idx coin none [] w
      ⟨r.lib, ⟨r.out.status, r.out.seed, lo⟩, pre ++ r.events, r.w⟩ := by
  rcases decodeFinish_cases cfg lib idx coin none [] w with
    ⟨hc, e⟩ | ⟨_, _, hc, ha, e⟩ | ⟨_, _, _, _, hc, ha, hs, e⟩ | ⟨_, _, _, _, hc, ha, hs, e⟩ <;>
    simp only [e, List.nil_append, List.append_assoc]
  · exact decodeFinish_checksum hc
  · rw [decodeFinish_memory hc ha, List.append_assoc]
  · rw [decodeFinish_unsupported hc ha hs, List.append_assoc, List.append_assoc]
  · rw [decodeFinish_ok hc ha hs, List.append_assoc]

/-- Status precedence of the common tail: checksum, then memory, then unsupported features. -/
theorem decodeFinish_precedence (cfg : Cfg) (lib : Lib) (idx : List Nat) (coin : Nat) (lo : Option Nat) (pre : List Event) (w : World) :
    let st := (decodeFinish cfg lib idx coin lo pre w).out.status
    (polyCheck (applyCoin idx coin) = false → st = .checksum) ∧
    (polyCheck (applyCoin idx coin) = true →
      (∀ e w1, doAlloc cfg lib w = (none, e, w1) → st = .memory) ∧
      (∀ a e w1, doAlloc cfg lib w = (some a, e, w1) →
        st = if featuresSupported lib.reserved (polyToData (applyCoin idx coin)).features then .ok else .unsupported)) := by
  refine ⟨fun hc => by rw [decodeFinish_checksum hc], fun hc =>
    ⟨fun e w1 ha => by rw [decodeFinish_memory hc ha], fun ⟨b, junk⟩ e w1 ha => ?_⟩⟩
  cases hs : featuresSupported lib.reserved (polyToData (applyCoin idx coin)).features
  · rw [decodeFinish_unsupported hc ha hs]; simp
  · rw [decodeFinish_ok hc ha hs]; simp

/-- the common tail adds its own events between what preceded it and the three wipes at `cleanup:` -/
theorem decodeFinish_events (cfg : Cfg) (lib : Lib) (idx : List Nat) (coin : Nat) (lo : Option Nat) (pre : List Event) (w : World) :
    ∃ mid, (decodeFinish cfg lib idx coin lo pre w).events = pre ++ mid ++ decodeWipes cfg lib := by
  rcases decodeFinish_cases cfg lib idx coin lo pre w with
    ⟨_, e⟩ | ⟨_, _, _, _, e⟩ | ⟨b, _, ev, _, _, _, _, e⟩ | ⟨_, _, _, _, _, _, _, e⟩ <;>
    rw [e]
  · exact ⟨[], by simp⟩
  · exact ⟨_, rfl⟩
  · exact ⟨[ev] ++ freeEvents cfg lib b, by simp only [List.append_assoc]⟩
  · exact ⟨_, rfl⟩

theorem decodeFinish_statuses (cfg : Cfg) (lib : Lib) (idx : List Nat) (coin : Nat) (lo : Option Nat) (pre : List Event) (w : World) :
    (decodeFinish cfg lib idx coin lo pre w).out.status ∈ [Status.ok, .checksum, .memory, .unsupported] := by
  rcases decodeFinish_cases cfg lib idx coin lo pre w with
    ⟨_, e⟩ | ⟨_, _, _, _, e⟩ | ⟨_, _, _, _, _, _, _, e⟩ | ⟨_, _, _, _, _, _, _, e⟩ <;>
    rw [e] <;> simp

/-- lists too short to have a second coefficient are left alone by both sides -/
theorem applyCoin_eq_set (p : List Nat) (c : Nat) : applyCoin p c = p.set 1 (p.getD 1 0 ^^^ c) := by
  match p with
  | [] | [_] => rfl
  | c0 :: c1 :: cs => rfl

theorem applyCoin_length (p : List Nat) (c : Nat) : (applyCoin p c).length = p.length := by
  rw [applyCoin_eq_set, List.length_set]

theorem applyCoin_coeffs (p : List Nat) (c : Nat) (h : Coeffs p) (hc : c < 2048) : Coeffs (applyCoin p c) := by
  rw [applyCoin_eq_set]; exact h.set 1 (Nat.xor_lt_two_pow (n := 11) (h.getD 1) hc)

/-! ### the decoders, with the tokeniser's and the lookup's results named -/

theorem decodeExplicit_eq (cfg : Cfg) (env : Env) (lib : Lib) (s : List Nat) (coin : Nat) (L : Lang) (w : World) :
    decodeExplicit cfg env lib s coin L w =
      if (strSplit cfg.numWords (decompose cfg env lib s).1).2 ≠ cfg.numWords then
        ⟨lib, ⟨.numWords, none, none⟩, (decompose cfg env lib s).2 ++ decodeWipes cfg lib, w⟩
      else match findAll L (strSplit cfg.numWords (decompose cfg env lib s).1).1 with
        | none => ⟨lib, ⟨.lang, none, none⟩, (decompose cfg env lib s).2 ++ decodeWipes cfg lib, w⟩
        | some idx => decodeFinish cfg lib idx coin none (decompose cfg env lib s).2 w := by
  rcases hf : findAll L (strSplit cfg.numWords (decompose cfg env lib s).1).1 with _ | idx <;>
    simp [decodeExplicit, phraseDecodeExplicit, hf]

theorem decode_eq (cfg : Cfg) (env : Env) (lib : Lib) (s : List Nat) (coin : Nat) (w : World) :
    decode cfg env lib s coin w =
      let pre := (decompose cfg env lib s).2
      let det := phraseDecode cfg.langs (strSplit cfg.numWords (decompose cfg env lib s).1).1
      if (strSplit cfg.numWords (decompose cfg env lib s).1).2 ≠ cfg.numWords then
        ⟨lib, ⟨.numWords, none, none⟩, pre ++ decodeWipes cfg lib, w⟩
      else if det.status ≠ .ok then
        ⟨lib, ⟨det.status, none, det.langOut⟩, pre ++ [detectWipe cfg lib] ++ decodeWipes cfg lib, w⟩
      else decodeFinish cfg lib det.idx coin det.langOut (pre ++ [detectWipe cfg lib]) w := rfl

end Polyseed
