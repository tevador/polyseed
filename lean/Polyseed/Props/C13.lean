import Polyseed.Lemmas.Exit
import Polyseed.Lemmas.PackSpec
import Polyseed.Lemmas.Heap
import Polyseed.Lemmas.Storage
import Polyseed.Props.C12
import Polyseed.Props.C11
import Polyseed.Props.C18
import Polyseed.Props.C15
import Polyseed.Lemmas.Search
/-!
# C13 — any sequence of API calls behaves like a simple abstract seed model

* the invariant: every seed the library holds or hands out is canonical (`AllCanon`), for EVERY history,
  all oracles (random bytes, clock values, KDF outputs, normaliser outputs), all junk in fresh blocks and all
  allocation failures;
* a canonical seed is nothing but its abstract value `(secret, birthday, features)` (`canon_determined`),
  and every observable output of a seed is a function of that abstract value written with `Spec.*` only
  (`store_abs`, `encode_abs`, `keygen_abs`, `queries_abs`);
* calls on one seed never affect another (`frame`).
-/
namespace Polyseed.C13
open Spec

/-- the abstract seed: 150-bit secret, birthday month, five feature bits -/
structure AbsSeed where
  S : Nat
  B : Nat
  F : Nat
deriving DecidableEq, Repr

def absSeed (d : Data) : AbsSeed := ⟨secretNat d.secret, d.birthday, d.features⟩

/-- the canonical representation of an abstract seed, written with `Spec.*` only -/
def concr (a : AbsSeed) : Data :=
  { birthday := a.B, features := a.F, secret := secretBytes a.S ++ List.replicate 13 0,
    checksum := checkWord (coeffs a.S (extraNat a.F a.B)) }

/-- **a canonical seed is just (secret, birthday, features)**: it equals the canonical representation of its
abstract value, so two canonical seeds with the same abstract value are identical in every field. -/
theorem concr_abs (d : Data) (h : d.Canon) : concr (absSeed d) = d := by
  have hwf := h.toWF
  have hsec := eq_secretBytes_pad d.secret _ hwf.secret_len hwf.secret_bytes hwf.secret_top hwf.secret_pad rfl
  have hchk : checkWord (coeffs (secretNat d.secret) (extraNat d.features d.birthday)) = d.checksum := by
    rw [← checkValue_eq_checkWord d hwf, ← h.checksum_ok]
  cases d with
  | mk b f s c =>
    simp only [concr, absSeed] at *
    rw [← hsec, hchk]

theorem canon_determined (d d' : Data) (h : d.Canon) (h' : d'.Canon) (e : absSeed d = absSeed d') : d = d' := by
  rw [← concr_abs d h, ← concr_abs d' h', e]

/-! ### observations are functions of the abstract value -/

theorem store_abs (d : Data) (h : d.Canon) : store d = store (concr (absSeed d)) := by rw [concr_abs d h]

/-- phrase: indices by `Spec.indices` -/
theorem encode_abs (d : Data) (h : d.Canon) (coin : Nat) :
    encodeCoeffs d coin = indices (absSeed d).S (absSeed d).B (absSeed d).F coin :=
  encodeCoeffs_eq_indices d h coin

theorem keygen_abs (env : Env) (lib : Lib) (d : Data) (h : d.Canon) (coin n : Nat) :
    keygen env lib d coin n = keygen env lib (concr (absSeed d)) coin n := by rw [concr_abs d h]

theorem queries_abs (d : Data) (m : Nat) :
    getBirthday d = birthdayDecode (absSeed d).B ∧ getFeature d m = getFeatures (absSeed d).F (m % 2 ^ 32) ∧
    isEncryptedSeed d = (if isEncrypted (absSeed d).F then 1 else 0) := ⟨rfl, rfl, rfl⟩

def AllCanon (lib : Lib) : Prop := ∀ b d, lib.get b = some d → d.Canon

/-- oracles return bytes; the random source returns the 19 bytes it was asked for -/
structure OraclesOK (env : Env) (w : World) : Prop where
  kdf_bytes : ∀ f pw salt it n, ∀ b ∈ env.kdf f pw salt it n, b < 256
  rand_ok : ∀ r ∈ w.rands, ∀ b ∈ r, b < 256

theorem inv_init : AllCanon Lib.init := by
  intro b d h; simp [Lib.init, Lib.get] at h

theorem checkValue_indep (d : Data) (c : Nat) : checkValue { d with checksum := c } = checkValue d := rfl

theorem createData_checksum (junk : Data) (sf t : Nat) (rnd : List Nat) :
    (createData junk sf t rnd).checksum = checkValue (createData junk sf t rnd) := rfl

theorem createData_canon (junk : Data) (f t : Nat) (rnd : List Nat) (hlen : rnd.length = 19) (hb : ∀ b ∈ rnd, b < 256) :
    (createData junk (makeFeatures f) t rnd).Canon := by
  have hs := (C18.create_secret junk (makeFeatures f) t rnd hlen).1
  have e : createData junk (makeFeatures f) t rnd = Data.mk (birthdayEncode t) (makeFeatures f)
      (rnd.set 18 (rnd.getD 18 0 &&& 63) ++ List.replicate 13 0)
      (checkValue ⟨birthdayEncode t, makeFeatures f, rnd.set 18 (rnd.getD 18 0 &&& 63) ++ List.replicate 13 0, 0⟩) := by
    rw [← hs]; rfl
  rw [e]
  have h63 : rnd.getD 18 0 &&& 63 < 64 := by rw [and_63]; omega
  refine .recompute (.of_bytes (C11.encode_lt t) (by show f &&& 7 < 32; rw [and_7]; omega) (by omega) (by simpa using hlen)
    (fun b h => (List.mem_or_eq_of_mem_set h).elim (hb b) fun h => by omega) ?_)
  simpa [List.getD, hlen] using h63

/-- what the random source delivered, padded/truncated to the 19 bytes `polyseed_create` asked for -/
theorem createData_pad (junk : Data) (sf t : Nat) (rnd : List Nat) :
    createData junk sf t rnd = createData junk sf t (rnd.take 19 ++ List.replicate (19 - rnd.length) 0) := by
  have hl : (rnd.take 19 ++ List.replicate (19 - rnd.length) 0).length = 19 := by simp; omega
  simp only [createData, SECRET_SIZE, hl, Nat.sub_self, List.replicate_zero, List.append_nil]
  rw [List.take_of_length_le (Nat.le_of_eq hl)]

/-- a seed decoded from a checksum-valid polynomial of field elements is canonical -/
theorem polyToData_canon (p : List Nat) (hlen : p.length = 16) (hp : Coeffs p) (hc : polyCheck p = true) : (polyToData p).Canon := by
  match p, hlen with
  | k :: cs, hlen =>
    obtain ⟨hk, hcs⟩ := List.forall_mem_cons.mp hp
    have hl : cs.length = 15 := by simpa using hlen
    refine { toWF := polyToData_wf k cs hk hl hcs, checksum_ok := ?_ }
    unfold checkValue
    rw [dataToPoly_polyToData k cs hk hl hcs, show (polyToData (k :: cs)).checksum = k by simp [polyToData]]
    exact (polyCheck_cons_iff k cs).mp hc

/-- what a decoder hands out: 16 field elements that validate once the coin is taken off -/
theorem decoded_canon {idx : List Nat} {coin : Nat} (hlen : idx.length = 16) (hidx : Coeffs idx) (hcoin : coin < 2048)
    (hc : polyCheck (applyCoin idx coin) = true) : (polyToData (applyCoin idx coin)).Canon :=
  polyToData_canon _ (by rw [applyCoin_length, hlen]) (applyCoin_coeffs idx coin hidx hcoin) hc

theorem AllCanon_put (lib : Lib) (b : Nat) (d : Data) (h : AllCanon lib) (hd : d.Canon) : AllCanon (lib.put b d) := by
  intro x dx hx
  rw [Lib.get_put] at hx
  split at hx
  · simp at hx; rw [← hx]; exact hd
  · exact h x dx hx

theorem AllCanon_del (lib : Lib) (b : Nat) (h : AllCanon lib) : AllCanon (lib.del b) := by
  intro x dx hx
  rw [Lib.get_del] at hx
  split at hx
  · simp at hx
  · exact h x dx hx

theorem AllCanon_update (lib : Lib) (b : Nat) (d : Data) (h : AllCanon lib) (hd : d.Canon) : AllCanon (lib.update b d) := by
  intro x dx hx
  rw [Lib.get_update] at hx
  split at hx
  · obtain ⟨_, _, rfl⟩ := Option.map_eq_some_iff.mp hx; exact hd
  · exact h x dx hx

/-- the common tail of the decoders keeps the invariant, given 16 field elements -/
theorem decodeFinish_inv (cfg : Cfg) (lib : Lib) (idx : List Nat) (coin : Nat) (lo : Option Nat) (pre : List Event) (w : World)
    (h : AllCanon lib) (hidx : Coeffs idx) (hlen : idx.length = 16) (hcoin : coin < 2048) :
    AllCanon (decodeFinish cfg lib idx coin lo pre w).lib := by
  rcases decodeFinish_cases cfg lib idx coin lo pre w with
    ⟨_, e⟩ | ⟨_, _, _, _, e⟩ | ⟨_, _, _, _, _, _, _, e⟩ | ⟨_, _, _, _, hc, _, _, e⟩ <;>
    rw [e]
  · exact h
  · exact h
  · exact h
  · exact AllCanon_put lib _ _ h (decoded_canon hlen hidx hcoin hc)

/-- what the invariant needs from the configuration and the call's arguments -/
structure CfgOK (cfg : Cfg) : Prop where
  numWords : cfg.numWords = 16
  sizes : ∀ li, (langAt cfg li).words.size ≤ 2048
  sizes' : ∀ L ∈ cfg.langs, L.words.size ≤ 2048

def OpOK : Op → Prop
  | .decode _ coin => coin < 2048
  | .decodeExplicit _ coin _ => coin < 2048
  | .load buf => buf.length = 32 ∧ BytesLt buf
  | _ => True

theorem indices_ok {cfg : Cfg} (hcfg : CfgOK cfg) {L : Lang} (hL : L.words.size ≤ 2048) {toks : List (List Nat)} {idx : List Nat}
    (hn : toks.length = cfg.numWords) (hf : findAll L toks = some idx) : idx.length = 16 ∧ Coeffs idx := by
  obtain ⟨hl, hlt⟩ := findAll_sound L toks idx hf
  exact ⟨by rw [hl, hn, hcfg.numWords], fun x hx => Nat.lt_of_lt_of_le (hlt x hx) hL⟩

/-- **the invariant is preserved by every call**, whatever its arguments, the oracles' answers, the junk in
fresh blocks and the allocator's answer. -/
theorem inv_step (cfg : Cfg) (env : Env) (lib : Lib) (op : Op) (w : World) (hcfg : CfgOK cfg) (hor : OraclesOK env w) (hop : OpOK op)
    (h : AllCanon lib) : AllCanon (step cfg env lib op w).lib := by
  have hx := step_exit cfg env lib op w
  generalize step cfg env lib op w = r at hx ⊢
  have decoded : ∀ {L toks idx coin}, L.words.size ≤ 2048 → toks.length = cfg.numWords → findAll L toks = some idx →
      coin < 2048 → polyCheck (applyCoin idx coin) = true → (polyToData (applyCoin idx coin)).Canon := by
    intro L toks idx coin hL hn hf hcoin hc
    obtain ⟨hl, hco⟩ := indices_ok hcfg hL hn hf
    exact decoded_canon hl hco hcoin hc
  cases hx with
  | freed hg => exact AllCanon_del lib _ h
  | rekeyed m hg hm hev =>
    obtain ⟨f, p, s, it, n, rfl⟩ := hm
    exact AllCanon_update lib _ _ h (C12.crypt_canon _ _ (h _ _ hg) (hor.kdf_bytes _ _ _ _ _))
  | made ha hpre hpost hal hr hd =>
    refine AllCanon_put lib _ _ h ?_
    cases hd with
    | create f junk =>
      rw [createData_pad]
      refine createData_canon _ _ _ _ (by simp; omega) fun x hx => ?_
      simp only [List.mem_append, List.mem_replicate] at hx
      rcases hx with hx | hx
      · have hx' := List.mem_of_mem_take hx
        rw [doAlloc_rands ha] at hx'
        cases hr : w.rands with
        | nil => simp [hr] at hx'
        | cons r rs => rw [hr] at hx'; exact hor.rand_ok r (by simp [hr]) x hx'
      · omega
    | decode hL hn hf hc => exact decoded (hcfg.sizes' _ hL) hn hf hop hc
    | decodeExplicit hn hf hc => exact decoded (hcfg.sizes _) hn hf hop hc
    | load hl hc => exact ⟨(dataLoad_ok_inv _ _ hop.1 hop.2 hl).1, (polyCheck_cons_iff _ _).mp hc⟩
  | _ => exact h

/-- a call consumes oracle answers from the front only: what is left was there before -/
theorem step_rands (cfg : Cfg) (env : Env) (lib : Lib) (op : Op) (w : World) :
    ∀ r ∈ (step cfg env lib op w).w.rands, r ∈ w.rands := by
  have hx := step_exit cfg env lib op w
  generalize step cfg env lib op w = r at hx ⊢
  cases hx with
  | nomem ha _ => rw [doAlloc_rands ha]; exact fun _ h => h
  | refused ha _ _ => rw [doAlloc_rands ha]; exact fun _ h => h
  | made ha _ _ _ hr _ => rw [← doAlloc_rands ha]; exact hr
  | _ => exact fun _ h => h

theorem OraclesOK.step {env : Env} {w : World} (hor : OraclesOK env w) (cfg : Cfg) (lib : Lib) (op : Op) :
    OraclesOK env (step cfg env lib op w).w :=
  ⟨hor.kdf_bytes, fun r hr => hor.rand_ok r (step_rands cfg env lib op w r hr)⟩

/-- **every history**: after any finite sequence of calls from any state satisfying the invariant (in
particular the initial one), every seed the library holds is canonical. -/
theorem inv_run (cfg : Cfg) (env : Env) (hcfg : CfgOK cfg) : ∀ (ops : List Op) (lib : Lib) (w : World),
    OraclesOK env w → (∀ op ∈ ops, OpOK op) → AllCanon lib → AllCanon (run cfg env lib ops w).1 := by
  intro ops
  induction ops with
  | nil => intro lib w _ _ h; exact h
  | cons op ops ih =>
    intro lib w hor hops h
    simp only [run]
    apply ih
    · exact hor.step cfg lib op
    · exact fun o ho => hops o (by simp [ho])
    · exact inv_step cfg env lib op w hcfg hor (hops op (by simp)) h

theorem inv_run_init (cfg : Cfg) (env : Env) (hcfg : CfgOK cfg) (ops : List Op) (w : World)
    (hor : OraclesOK env w) (hops : ∀ op ∈ ops, OpOK op) : AllCanon (run cfg env Lib.init ops w).1 :=
  inv_run cfg env hcfg ops Lib.init w hor hops inv_init

/-- the seed a call operates on -/
def target : Op → Option Nat
  | .free h => h
  | .crypt h _ => some h
  | _ => none

/-- a call changes at most the seed it is aimed at and the block the allocator hands it -/
theorem step_get_other (cfg : Cfg) (env : Env) (lib : Lib) (op : Op) (w : World) (x : Nat)
    (hne : target op ≠ some x) (hn : (w.allocs.headD none).map (·.1) ≠ some x) :
    (step cfg env lib op w).lib.get x = lib.get x := by
  have hx := step_exit cfg env lib op w
  generalize step cfg env lib op w = r at hx ⊢
  cases hx with
  | @made _ lo pre post b junk d w1 w2 ha =>
    have : x ≠ b := fun e => hn (by rw [doAlloc_answer ha, e]; rfl)
    simp only [Lib.get_put, this, ↓reduceIte]
  | @freed b _ hg =>
    have : x ≠ b := fun e => hne (by simp [target, e])
    simp only [Lib.get_del, this, ↓reduceIte]
  | @rekeyed b _ _ _ m hg =>
    have : x ≠ b := fun e => hne (by simp [target, e])
    simp only [Lib.get_update, this, ↓reduceIte]
  | _ => rfl

/-- **frame**: a call never changes a seed other than the one it is given (constructors touch only the fresh
block they obtained; `polyseed_free` and `polyseed_crypt` only their argument). -/
theorem frame (cfg : Cfg) (env : Env) (lib : Lib) (op : Op) (w : World) (hinv : C15.Inv lib w)
    (x : Nat) (d : Data) (hx : lib.get x = some d) (hne : target op ≠ some x) :
    (step cfg env lib op w).lib.get x = some d := by
  rw [step_get_other cfg env lib op w x hne, hx]
  -- a live block is not the one the allocator hands out next
  intro h
  obtain ⟨⟨b, junk⟩, ha, rfl⟩ := Option.map_eq_some_iff.mp h
  exact ((hinv.alloc (doAlloc_eq cfg lib w)).2 _ _ ha).1 ((Lib.mem_keys_iff lib _).mpr ⟨d, hx⟩)

/-- non-vacuity: a concrete canonical seed and its abstract value (test vector 1) -/
example : absSeed (concr ⟨0xdd76e7359a0ded37cd0ff0f3c829a5ae0167 * 64 + 0x33, 1, 0⟩) = ⟨0xdd76e7359a0ded37cd0ff0f3c829a5ae0167 * 64 + 0x33, 1, 0⟩ := by
  decide +kernel

end Polyseed.C13
