/-! Small general facts used across the development (core Lean only): sweeps evaluated by the kernel, lists and arrays read
with a default, early returns, masks as remainders. -/
namespace Polyseed

theorem all_range {n : Nat} {p : Nat → Bool} (h : (List.range n).all p = true) {x : Nat} (hx : x < n) : p x = true :=
  List.all_eq_true.mp h x (List.mem_range.mpr hx)

theorem getD_lt_of_forall {l : List Nat} {n : Nat} (h : ∀ x ∈ l, x < n) (hn : 0 < n) (i : Nat) : l.getD i 0 < n := by
  rw [List.getD_eq_getElem?_getD]
  cases hi : l[i]? with
  | none => exact hn
  | some v => exact h v (List.mem_of_getElem? hi)

theorem getD_ext (a b : List Nat) (hl : a.length = b.length) (h : ∀ i, a.getD i 0 = b.getD i 0) : a = b :=
  List.ext_getElem hl fun i _ _ => by rw [List.getElem_eq_getD 0, List.getElem_eq_getD 0, h i]

theorem getD_elim {α : Type} (p : α → Prop) (a : Array α) (d : α) (i : Nat) (hd : p d) (h : ∀ x ∈ a.toList, p x) :
    p (a.getD i d) := by
  rw [Array.getD]
  split
  · exact h _ (by simp)
  · exact hd

/-- a test that leaves early with `b` is one more conjunct of the condition for `a` -/
theorem ite_and {α} (p q : Prop) [Decidable p] [Decidable q] (a b : α) :
    (if p ∧ q then a else b) = if p then if q then a else b else b := by
  by_cases p <;> simp [*]

/-! XOR cancels -/

theorem xor_xor_self (a b : Nat) : a ^^^ b ^^^ b = a := by rw [Nat.xor_assoc, Nat.xor_self, Nat.xor_zero]

theorem xor_right_cancel {a b c : Nat} (h : a ^^^ c = b ^^^ c) : a = b := by
  rw [← xor_xor_self a c, h, xor_xor_self]

theorem eq_of_xor_eq_zero {a b : Nat} (h : a ^^^ b = 0) : a = b := xor_right_cancel (h.trans (Nat.xor_self b).symm)

theorem xor_xor_cancel (a b c : Nat) : (a ^^^ c) ^^^ (b ^^^ c) = a ^^^ b := by
  rw [Nat.xor_comm b c, ← Nat.xor_assoc, xor_xor_self]

/-! `a <<< k ||| y` with `y` below the shift is `a * 2 ^ k + y` -/

theorem or_eq_add (a y k : Nat) (hy : y < 2 ^ k) (ha : a % 2 ^ k = 0) : a ||| y = a + y := by
  have : a = 2 ^ k * (a / 2 ^ k) := by
    have := Nat.div_add_mod a (2 ^ k); omega
  rw [this, ← Nat.two_pow_add_eq_or_of_lt hy]

/-- `m` stands beside `k` so that `simp` can match the literal `m` of a goal and discharge `hm` by evaluation. -/
theorem shl_or (a y k m : Nat) (hm : m = 2 ^ k) (hy : y < m) : a <<< k ||| y = a * m + y := by
  subst hm; rw [Nat.shiftLeft_eq, or_eq_add _ _ k hy (Nat.mul_mod_left ..)]

theorem and_1023 (x : Nat) : x &&& 1023 = x % 1024 := Nat.and_two_pow_sub_one_eq_mod x 10
theorem and_2047 (x : Nat) : x &&& 2047 = x % 2048 := Nat.and_two_pow_sub_one_eq_mod x 11
theorem and_63 (x : Nat) : x &&& 63 = x % 64 := Nat.and_two_pow_sub_one_eq_mod x 6
theorem and_7 (x : Nat) : x &&& 7 = x % 8 := Nat.and_two_pow_sub_one_eq_mod x 3
theorem and_31 (x : Nat) : x &&& 31 = x % 32 := Nat.and_two_pow_sub_one_eq_mod x 5
theorem and_1 (x : Nat) : x &&& 1 = x % 2 := Nat.and_two_pow_sub_one_eq_mod x 1
theorem and_255 (x : Nat) : x &&& 255 = x % 256 := Nat.and_two_pow_sub_one_eq_mod x 8
theorem and_15 (x : Nat) : x &&& 15 = x % 16 := Nat.and_two_pow_sub_one_eq_mod x 4
theorem and_3 (x : Nat) : x &&& 3 = x % 4 := Nat.and_two_pow_sub_one_eq_mod x 2

theorem and_mul_two_pow (x m k : Nat) : x &&& (m * 2 ^ k) = ((x / 2 ^ k) &&& m) * 2 ^ k := by
  apply Nat.eq_of_testBit_eq; intro i
  simp only [Nat.testBit_and, Nat.testBit_mul_two_pow, Nat.testBit_div_two_pow]
  by_cases h : k ≤ i
  · simp [h, Nat.sub_add_cancel h]
  · simp [h]

theorem and_bit (m i : Nat) : m &&& (1 <<< i) = (m / 2 ^ i % 2) * 2 ^ i := by
  rw [Nat.one_shiftLeft, ← and_1, ← and_mul_two_pow, Nat.one_mul]

theorem and_192 (x : Nat) : x &&& 192 = (x / 64 &&& 3) * 64 := and_mul_two_pow x 3 6
theorem and_63488 (x : Nat) : x &&& 63488 = (x / 2048 &&& 31) * 2048 := and_mul_two_pow x 31 11

end Polyseed
