import Polyseed.Props.C02
import Polyseed.Lemmas.PackSpec
/-!
# C05 — a phrase is bound to its coin: every other coin value rejects it

On coefficient vectors: `applyCoin` is the `poly.coeff[1] ^= coin` of encode and of both decoders.
`Props/C01.lean` lifts the statements to phrases.
-/
namespace Polyseed.C05

/-- decoding for the coin the phrase was encoded for recovers the polynomial. -/
theorem same_coin (p : List Nat) (a : Nat) : applyCoin (applyCoin p a) a = p := by
  match p with
  | [] => rfl
  | [_] => rfl
  | c0 :: c1 :: cs => simp [applyCoin, Nat.xor_assoc]

/-- A valid polynomial encoded for coin `a` fails the checksum for every other coin `b`. -/
theorem wrong_coin (p : List Nat) (hp : Coeffs p) (hlen : 2 ≤ p.length) (hc : polyCheck p = true)
    (a b : Nat) (ha : a < 2048) (hb : b < 2048) (hab : a ≠ b) :
    polyCheck (applyCoin (applyCoin p a) b) = false := by
  have h1 : 1 < p.length := hlen
  have g2 : (p.set 1 (p.getD 1 0 ^^^ a)).getD 1 0 = p[1] ^^^ a := by simp [List.getD, h1]
  rw [applyCoin_eq_set p a, applyCoin_eq_set _ b, List.set_set, g2]
  refine C02.single_error p hp hc 1 h1 _ ?_ fun h => hab ?_
  · exact Nat.xor_lt_two_pow (n := 11) (Nat.xor_lt_two_pow (n := 11) (hp _ (List.getElem_mem h1)) ha) hb
  · -- p[1] + a + b = p[1] makes a + b vanish
    rw [Nat.xor_assoc, Nat.xor_comm] at h
    exact eq_of_xor_eq_zero (xor_right_cancel (h.trans (Nat.zero_xor _).symm))

/-- The coefficient vectors for coins `a` and `b` of the same seed differ in the second coefficient only. -/
theorem coin_changes_word2_only (p : List Nat) (hlen : 2 ≤ p.length) (a b : Nat) (hab : a ≠ b) :
    (∀ i, i ≠ 1 → (applyCoin p a).getD i 0 = (applyCoin p b).getD i 0) ∧
    (applyCoin p a).getD 1 0 ≠ (applyCoin p b).getD 1 0 := by
  match p, hlen with
  | c0 :: c1 :: cs, _ =>
    constructor
    · intro i hi
      match i with
      | 0 => rfl
      | 1 => exact absurd rfl hi
      | i + 2 => rfl
    · simp only [applyCoin, List.getD_cons_succ, List.getD_cons_zero]
      rw [Nat.xor_comm c1, Nat.xor_comm c1]
      exact fun h => hab (xor_right_cancel h)

theorem applyCoin_encodeCoeffs (d : Data) (coin : Nat) :
    applyCoin (encodeCoeffs d coin) coin = d.checksum :: dataToPoly d := by
  rw [encodeCoeffs_eq, C05.same_coin]

theorem encodeCoeffs_wrong_coin (d : Data) (hd : d.Canon) (a c : Nat) (ha : a < 2048) (hc : c < 2048) (hac : a ≠ c) :
    polyCheck (applyCoin (encodeCoeffs d a) c) = false := by
  rw [encodeCoeffs_eq]
  exact wrong_coin _ (poly_coeffs d hd.toWF) (by simp [dataToPoly_length d hd.toWF])
    ((polyCheck_cons_iff _ _).mpr hd.checksum_ok) a c ha hc hac

/-- non-vacuity on the first test vector: coin 1 vs coin 0. -/
example : polyCheck (applyCoin (applyCoin [1427, 1770, 1756, 922, 820, 110, 1446, 998, 542, 1926, 1656, 1044, 842, 1392, 44, 999] 0) 1) = false := by
  decide

end Polyseed.C05
