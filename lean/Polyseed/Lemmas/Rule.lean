import Polyseed.Lemmas.Order
/-!
# The four comparators are `compare_str` on comparison forms; the matching rule

* the two accent-insensitive comparators ARE the plain ones applied to the strings with every byte `>= 0x80` removed
  (`strip`) — this is where D6 is visible: all non-ASCII bytes are removed, not only accents;
* `form L s` is what the comparator of `L` looks at (`strip s` where accents are folded); `getComparer_eq`: the
  comparator of `L` is `compare_str` on the forms, the element cut to the key's length where abbreviation is allowed
  and the key has four letters; `cmpStr_cut_eq_zero`: its zero set;
* `C08.Rule`, the rule C08 states without reference to the code (it stands here because the lemmas about the table
  checks need it), and `C08.rule_iff`, the rule on the forms.
-/
namespace Polyseed

/-- what the accent-insensitive comparators compare: the string without its bytes >= 0x80 -/
def strip (s : List Nat) : List Nat := s.filter (fun b => !isNeg b)

theorem sc_inj (a b : Nat) (ha : a < 256) (hb : b < 256) (h : sc a = sc b) : a = b := by
  unfold sc at h
  omega

theorem sgnCmp_eq_zero (a b : Nat) (ha : a < 256) (hb : b < 256) : sgnCmp a b = 0 ↔ a = b := by
  have : sgnCmp a b = 0 ↔ sc a = sc b := by unfold sgnCmp; omega
  exact this.trans ⟨sc_inj a b ha hb, congrArg sc⟩

def BytesOK (w : List Nat) : Prop := ∀ b ∈ w, 0 < b ∧ b < 256

/-- `compare_str` returns 0 exactly for equal strings (NUL-free byte strings). -/
theorem cmpStr_eq_zero : ∀ (a b : List Nat), BytesOK a → BytesOK b → (cmpStr a b = 0 ↔ a = b) := by
  intro a b ha hb
  refine ⟨fun h => ?_, fun h => h ▸ cmpStr_self a⟩
  -- a string that goes on is told from one that has ended, since its next byte is not the terminator 0
  induction a generalizing b with
  | nil =>
    obtain _ | ⟨e, es⟩ := b
    · rfl
    · have he := hb e List.mem_cons_self
      have := (sgnCmp_eq_zero 0 e (by omega) he.2).mp h
      omega
  | cons k ks ih =>
    obtain ⟨hk, hks⟩ := List.forall_mem_cons.mp ha
    obtain _ | ⟨e, es⟩ := b
    · have := (sgnCmp_eq_zero k 0 hk.2 (by omega)).mp h
      omega
    · obtain ⟨he, hes⟩ := List.forall_mem_cons.mp hb
      rw [cmpStr] at h
      split at h
      · next hke => rw [hke, ih es hks hes h]
      · next hke => exact (hke ((sgnCmp_eq_zero k e hk.2 he.2).mp h)).elim

theorem strip_cons (b : Nat) (bs : List Nat) : strip (b :: bs) = if isNeg b then strip bs else b :: strip bs := by
  unfold strip; simp only [List.filter_cons]; cases isNeg b <;> simp

theorem strip_idem (s : List Nat) : strip (strip s) = strip s := by
  unfold strip; rw [List.filter_filter]; simp

theorem skipNeg_strip (s : List Nat) : strip (skipNeg s) = strip s := by
  induction s with
  | nil => rfl
  | cons b bs ih =>
    simp only [skipNeg]
    cases h : isNeg b
    · simp
    · simp only [↓reduceIte, ih, strip_cons, h]

/-- `skipNeg` stops at the first byte that `strip` keeps -/
theorem strip_eq_skipNeg (s : List Nat) : strip s = match skipNeg s with | [] => [] | e :: es => e :: strip es := by
  induction s with
  | nil => rfl
  | cons b bs ih =>
    rw [strip_cons, skipNeg]
    cases isNeg b
    · rfl
    · exact ih

theorem skipNeg_cons (s : List Nat) (e : Nat) (es : List Nat) (h : skipNeg s = e :: es) :
    isNeg e = false ∧ strip s = e :: strip es := by
  have hs : strip s = e :: strip es := by rw [strip_eq_skipNeg, h]
  have he : e ∈ strip s := hs ▸ List.mem_cons_self
  exact ⟨by simpa using (List.mem_filter.mp he).2, hs⟩

theorem hd_skipNeg (s : List Nat) : hd (skipNeg s) = hd (strip s) := by
  rw [strip_eq_skipNeg]; cases skipNeg s <;> rfl

theorem skipNeg_nil_iff (s : List Nat) : skipNeg s = [] ↔ strip s = [] := by
  rw [strip_eq_skipNeg]; cases skipNeg s <;> simp

/-- `compare_prefix_noaccent` is `compare_prefix` on the stripped strings (an identity, not only on zero sets) -/
theorem cmpPrefixNoaccent_eq (n : Nat) : ∀ (key elm : List Nat) (i : Nat),
    cmpPrefixNoaccent n i key elm = cmpPrefix n i (strip key) (strip elm) := by
  intro key
  induction key with
  | nil => intro elm i; rw [strip_eq_skipNeg elm, cmpPrefixNoaccent]; cases skipNeg elm <;> rfl
  | cons k ks ih =>
    intro elm i
    rw [cmpPrefixNoaccent, strip_cons]
    cases isNeg k
    · rw [strip_eq_skipNeg elm]
      cases skipNeg elm with
      | nil => simp only [Bool.false_eq_true, ↓reduceIte, cmpPrefix, skipNeg_nil_iff]
      | cons e es => simp only [Bool.false_eq_true, ↓reduceIte, cmpPrefix, skipNeg_nil_iff, ih, hd, List.headD_cons]
    · exact ih elm i

theorem cmpStrNoaccent_eq : ∀ (key elm : List Nat), cmpStrNoaccent key elm = cmpStr (strip key) (strip elm) := by
  intro key
  induction key with
  | nil => intro elm; rw [strip_eq_skipNeg elm, cmpStrNoaccent]; cases skipNeg elm <;> rfl
  | cons k ks ih =>
    intro elm
    rw [cmpStrNoaccent, strip_cons]
    cases isNeg k
    · rw [strip_eq_skipNeg elm]
      cases skipNeg elm with
      | nil => rfl
      | cons e es => simp only [Bool.false_eq_true, ↓reduceIte, cmpStr, ih]
    · exact ih elm

theorem prefix_of_eq {α} {a b : List α} (h : a = b) : a <+: b := h ▸ List.prefix_refl a

/-- the zero set of `compare_str` against an element that is cut to the key's length when `c` holds -/
theorem cmpStr_cut_eq_zero (key elm : List Nat) (c : Prop) [Decidable c] (hk : BytesOK key) (he : BytesOK elm) :
    cmpStr key (if c then elm.take key.length else elm) = 0 ↔ key = elm ∨ (c ∧ key <+: elm) := by
  split
  · rename_i h
    rw [cmpStr_eq_zero _ _ hk fun b hb => he b (List.mem_of_mem_take hb), ← List.prefix_iff_eq_take]
    exact ⟨fun hp => .inr ⟨h, hp⟩, fun h' => h'.elim prefix_of_eq (·.2)⟩
  · rename_i h
    rw [cmpStr_eq_zero _ _ hk he]
    exact ⟨.inl, fun h' => h'.elim id fun h'' => (h h''.1).elim⟩

/-- the zero set of `compare_prefix(key, elm, n)` with loop counter `i` -/
theorem cmpPrefix_eq_zero (n : Nat) : ∀ (key elm : List Nat) (i : Nat), BytesOK key → BytesOK elm →
    (cmpPrefix n i key elm = 0 ↔ key = elm ∨ (key ≠ [] ∧ n ≤ i + key.length - 1 ∧ key <+: elm)) := by
  intro key elm i hk he
  rw [cmpPrefix_eq_cmpStr, cmpStr_cut_eq_zero _ _ _ hk he, and_assoc]

theorem strip_bytesOK (s : List Nat) (h : BytesOK s) : BytesOK (strip s) := fun b hb => h b (List.mem_filter.mp hb).1

/-- the comparison form of a string: what the language's comparator looks at -/
abbrev form (L : Lang) (s : List Nat) : List Nat := if L.hasAccents then strip s else s

/-- **all four comparators are `compare_str`** on the comparison forms, the element cut to the key's length where
abbreviation is allowed and the key has four letters -/
theorem getComparer_eq (L : Lang) (tok w : List Nat) :
    getComparer L tok w = cmpStr (form L tok)
      (if L.hasPrefix = true ∧ 4 ≤ (form L tok).length then (form L w).take (form L tok).length else form L w) := by
  have hc : ∀ t : List Nat, (t ≠ [] ∧ 4 ≤ 1 + t.length - 1) ↔ 4 ≤ t.length := by
    intro t; cases t <;> simp <;> omega
  unfold getComparer NUM_CHARS_PREFIX form
  cases L.hasPrefix <;> cases L.hasAccents <;>
    simp only [↓reduceIte, Bool.false_eq_true, false_and, true_and, cmpStrNoaccent_eq, cmpPrefixNoaccent_eq,
      cmpPrefix_eq_cmpStr, hc]

namespace C08

/-- the rule: exact word; or, where abbreviation is allowed, a prefix of at least four letters; compared on the
accent-stripped forms where accents are ignored. -/
def Rule (L : Lang) (tok w : List Nat) : Prop :=
  let t := if L.hasAccents then strip tok else tok
  let e := if L.hasAccents then strip w else w
  if L.hasPrefix then t = e ∨ (4 ≤ t.length ∧ t <+: e) else t = e

theorem rule_iff (L : Lang) (tok w : List Nat) :
    Rule L tok w ↔ form L tok = form L w ∨ (L.hasPrefix = true ∧ 4 ≤ (form L tok).length ∧ form L tok <+: form L w) := by
  unfold Rule
  cases L.hasPrefix <;> simp

end C08

theorem form_idem (L : Lang) (s : List Nat) : form L (form L s) = form L s := by
  unfold form; split <;> simp [strip_idem]

/-- a prefix of a comparison form is its own comparison form -/
theorem form_take (L : Lang) (s : List Nat) (n : Nat) : form L ((form L s).take n) = (form L s).take n := by
  unfold form; split
  · exact List.filter_eq_self.mpr fun b hb => (List.mem_filter.mp (List.mem_of_mem_take hb)).2
  · rfl

end Polyseed
