import Polyseed.Props.C07
/-!
# C08 — abbreviated and unaccented words are accepted by one exact rule, and only by it

`Rule L tok w` (`Lemmas/Rule.lean`, where the lemmas about the table checks need it) is written without reference to
the code.  `find_iff_rule` says that for EVERY token (NUL-free byte string, as the tokeniser delivers it after NFKD) and
every index the library's lookup returns that index exactly when the rule accepts the token for that word — in all ten
languages.

For Spanish and French the comparison form is `strip`: the string without its bytes >= 0x80.  On NFKD text of
the Latin script these bytes are exactly the combining accents, which is what the property asks for; bytes
>= 0x80 that are NOT accents are dropped as well (open finding D6), so with `strip` read as "drop accents" the
statement is the property's, and read literally it states precisely what the code accepts.
-/
namespace Polyseed.C08

theorem comparer_zero_iff (L : Lang) (tok w : List Nat) (ht : BytesOK tok) (hw : BytesOK w) :
    getComparer L tok w = 0 ↔ Rule L tok w := by
  have hf : ∀ s, BytesOK s → BytesOK (form L s) := fun s hs => by
    unfold form; split
    · exact strip_bytesOK s hs
    · exact hs
  rw [getComparer_eq, cmpStr_cut_eq_zero _ _ _ (hf _ ht) (hf _ hw), rule_iff, and_assoc]

/-- the lookup in ANY table that passes the order check: index `i` is returned exactly when the rule accepts the token
for word `i` -/
theorem find_iff_rule_of_orderCheck (L : Lang) (ho : orderCheck L = true) (tok : List Nat) (htok : BytesOK tok) (i : Nat) :
    findWord L tok = some i ↔ ∃ hi : i < L.words.size, Rule L tok L.words[i] := by
  have hT := tableOK_of_orderCheck L ho
  constructor
  · intro h
    obtain ⟨hi, hz⟩ := findWord_sound L tok i h
    exact ⟨hi, (comparer_zero_iff L tok _ htok (hT.bytesOK i hi)).mp hz⟩
  · exact fun ⟨hi, h⟩ => findWord_of_orderCheck L ho tok i hi h

/-- **only by the rule**: whatever index the lookup returns, the rule accepts the token for that word
(every language, every token). -/
theorem find_only_by_rule (L : Lang) (hL : L ∈ Gen.registry) (tok : List Nat) (htok : BytesOK tok) (i : Nat)
    (h : findWord L tok = some i) : ∃ hi : i < L.words.size, Rule L tok L.words[i] :=
  (find_iff_rule_of_orderCheck L (C07.passes L hL).1 tok htok i).mp h

/-- the abbreviating languages are searched with `bsearch` -/
theorem prefix_sorted : ∀ L ∈ Gen.registry, L.hasPrefix = true → L.isSorted = true := by
  have : Gen.registry.all (fun L => !L.hasPrefix || L.isSorted) = true := by decide +kernel
  intro L hL hp
  simpa [hp] using List.all_eq_true.mp this L hL

/-- the lookup depends on the token only through its comparison form -/
theorem findWord_strip (L : Lang) (hp : L.hasPrefix = true) (ha : L.hasAccents = true) (tok : List Nat) :
    findWord L tok = findWord L (strip tok) := by
  have : getComparer L tok = getComparer L (strip tok) := by
    funext elm
    simp only [getComparer, hp, ha, ↓reduceIte, cmpPrefixNoaccent_eq, strip_idem]
  unfold findWord langSearch
  rw [this]

/-- **the lookup returns index `i` IF AND ONLY IF the rule accepts the token for word `i`** (every registered language,
every token) -/
theorem find_iff_rule (L : Lang) (hL : L ∈ Gen.registry) (tok : List Nat) (htok : BytesOK tok) (i : Nat) (hi : i < L.words.size) :
    findWord L tok = some i ↔ Rule L tok L.words[i] := by
  rw [find_iff_rule_of_orderCheck L (C07.passes L hL).1 tok htok i]
  exact ⟨fun h => h.2, fun h => ⟨hi, h⟩⟩

/-- In Japanese, Korean and Chinese only the exact word is accepted. -/
theorem find_exact_iff (L : Lang) (hL : L ∈ Gen.registry) (hp : L.hasPrefix = false) (ha : L.hasAccents = false)
    (tok : List Nat) (htok : BytesOK tok) (i : Nat) (hi : i < L.words.size) :
    findWord L tok = some i ↔ tok = L.words[i] := by
  rw [find_iff_rule L hL tok htok i hi, rule_iff]
  simp [form, hp, ha]

/-- a token that is too short is never mapped to a longer word -/
theorem too_short (L : Lang) (hL : L ∈ Gen.registry) (tok : List Nat) (htok : BytesOK tok) (i : Nat) (hi : i < L.words.size)
    (hshort : (if L.hasAccents then strip tok else tok).length < 4)
    (hne : (if L.hasAccents then strip tok else tok) ≠ (if L.hasAccents then strip L.words[i] else L.words[i])) :
    findWord L tok ≠ some i := by
  rw [Ne, find_iff_rule L hL tok htok i hi, rule_iff]
  rintro (h | ⟨_, h4, _⟩)
  · exact hne h
  · exact absurd h4 (Nat.not_le.mpr hshort)

/-- a token that continues with characters the word does not have is never mapped to that word -/
theorem continues_otherwise (L : Lang) (hL : L ∈ Gen.registry) (tok : List Nat) (htok : BytesOK tok) (i : Nat) (hi : i < L.words.size)
    (hnp : ¬ ((if L.hasAccents then strip tok else tok) <+: (if L.hasAccents then strip L.words[i] else L.words[i]))) :
    findWord L tok ≠ some i := by
  rw [Ne, find_iff_rule L hL tok htok i hi, rule_iff]
  exact fun h => hnp (h.elim prefix_of_eq (·.2.2))

/-- which languages abbreviate / fold accents -/
theorem exact_languages : Gen.registry.map (fun L => (L.hasPrefix, L.hasAccents)) =
    [(true, false), (false, false), (false, false), (true, true), (true, true), (true, false), (true, false), (true, false), (false, false), (false, false)] := by
  decide +kernel

/-- D6 in one line: stripping removes EVERY byte >= 0x80, so "ahogo" followed by U+65E5 has the comparison form of "ahogo" -/
example : strip [97, 104, 111, 103, 111, 0xE6, 0x97, 0xA5] = [97, 104, 111, 103, 111] := by decide

end Polyseed.C08
