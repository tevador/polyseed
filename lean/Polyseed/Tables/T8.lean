import Polyseed.Lemmas.Tables
import Polyseed.Gen.L8
import Polyseed.Pinned.L8
/-! Kernel-evaluated facts about language 8 of the registry AS THE CURRENT TREE HAS IT (Gen is regenerated on every run). -/
namespace Polyseed.Tables.T8

/-- the list is exactly the list published at the pinned release (name, flags, separator, all 2048 words) -/
theorem frozen : Gen.L8.lang = Pinned.L8.lang := rfl

/-- 2048 NUL-free, space-free, non-empty words in the order the library's search needs; no two words share their first
four accent-stripped letters (languages that allow abbreviation); an empty token is not recognised -/
theorem passes : langChecks Gen.L8.lang = true := by decide_table Gen.L8.lang Gen.L8.wordsList

end Polyseed.Tables.T8
