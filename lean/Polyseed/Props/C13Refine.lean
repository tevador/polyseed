import Polyseed.Model.Abstract
import Polyseed.Props.C13
import Polyseed.Props.C04
import Polyseed.Props.C06
import Polyseed.Props.C10
/-!
# C13 as a refinement: the concrete model produces exactly the outputs of the abstract seed model

`Model/Abstract.lean` is the abstract model of the property statement: a seed is (secret, birthday, features), the
library state is the enabled-feature mask, the injected functions and the live handles; every output is written with
the published format.  Here: the abstraction map `absLib`, one-step refinement `step_refines` (every operation, every
argument, every oracle answer: same output, same remaining oracle answers, and the abstraction of the new concrete
state is the new abstract state) and its lift to every finite history `run_refines`.
-/
namespace Polyseed.C13R
open Polyseed.Spec Polyseed.C13

def toAbs (d : Data) : Abs.Seed := ⟨secretNat d.secret, d.birthday, d.features⟩

/-- the abstraction map -/
def absLib (lib : Lib) : Abs.State := ⟨lib.deps, 15 - lib.reserved, lib.heap.map (fun p => (p.1, toAbs p.2))⟩

/-- `reserved_features` always has the form "all user bits and the reserved bit, minus the enabled ones" -/
def ReservedOK (lib : Lib) : Prop := 8 ≤ lib.reserved ∧ lib.reserved ≤ 15

theorem lookup_map (h : List (Nat × Data)) (x : Nat) :
    (h.map (fun p => (p.1, toAbs p.2))).lookup x = (h.lookup x).map toAbs := by
  induction h with
  | nil => rfl
  | cons p ps ih =>
    obtain ⟨k, v⟩ := p
    simp only [List.map_cons, List.lookup]
    cases hk : x == k <;> simp [ih]

theorem abs_get (lib : Lib) (h : Nat) : (absLib lib).get h = (lib.get h).map toAbs := by
  simp only [Abs.State.get, absLib, Lib.get, lookup_map]

theorem abs_put (lib : Lib) (b : Nat) (d : Data) : absLib (lib.put b d) = (absLib lib).put b (toAbs d) := by
  simp only [absLib, Lib.put, Abs.State.put, List.map_cons, List.filter_map]
  rfl

theorem abs_del (lib : Lib) (b : Nat) : absLib (lib.del b) = (absLib lib).del b := by
  simp only [absLib, Lib.del, Abs.State.del, List.filter_map]
  rfl

theorem abs_update (lib : Lib) (b : Nat) (d : Data) : absLib (lib.update b d) = (absLib lib).set b (toAbs d) := by
  simp only [absLib, Lib.update, Abs.State.set, List.map_map]
  congr 1
  apply List.map_congr_left
  intro p _
  simp only [Function.comp]
  split <;> rfl

theorem supported_all : (List.range 8).all (fun m => (List.range 32).all (fun F =>
    Abs.supported m F == featuresSupported (15 - m) F)) = true := by decide +kernel

theorem supported_eq (m F : Nat) (hm : m < 8) (hF : F < 32) : Abs.supported m F = featuresSupported (15 - m) F := by
  have := all_range (all_range supported_all hm) hF
  simpa using this

theorem supported_abs (lib : Lib) (hr : ReservedOK lib) (F : Nat) (hF : F < 32) :
    Abs.supported (absLib lib).mask F = featuresSupported lib.reserved F := by
  obtain ⟨h1, h2⟩ := hr
  have := supported_eq (15 - lib.reserved) F (by omega) hF
  rw [show 15 - (15 - lib.reserved) = lib.reserved by omega] at this
  exact this

theorem month_eq (t : Nat) : Abs.month t = birthdayEncode t := by
  unfold Abs.month birthdayEncode EPOCH TIME_STEP DATE_MASK
  split
  · rfl
  · rw [and_1023]

theorem secretNat_congr (a b : List Nat) (h1 : a.take 18 = b.take 18) (h2 : a.getD 18 0 % 64 = b.getD 18 0 % 64) :
    secretNat a = secretNat b := by
  unfold secretNat; rw [h1, h2]

/-- `polyseed_create`: the secret is the 19 random bytes, top two bits of the last dropped -/
theorem toAbs_createData (junk : Data) (sf t : Nat) (rnd : List Nat) :
    toAbs (createData junk sf t rnd) =
      ⟨secretNat (rnd.take 19 ++ List.replicate (19 - rnd.length) 0), Abs.month t, sf⟩ := by
  rw [createData_pad]
  generalize hb : rnd.take 19 ++ List.replicate (19 - rnd.length) 0 = bytes
  have hl : bytes.length = 19 := by rw [← hb, List.length_append, List.length_take, List.length_replicate]; omega
  obtain ⟨hs, hB, hF⟩ := C18.create_secret junk sf t bytes hl
  rw [toAbs, hs, hB, hF, month_eq]
  -- dropping the top two bits of byte 18 does not show in the 150-bit number
  refine congrArg (Abs.Seed.mk · _ _) (secretNat_congr _ _ ?_ ?_)
  · rw [List.take_append_of_le_length (by simp [hl]), List.take_set_of_le (by omega)]
  · simp only [List.getD, List.getElem?_append_left (show 18 < (bytes.set 18 _).length by simp [hl]),
      List.getElem?_set_self (show 18 < bytes.length by omega), Option.getD_some]
    rw [and_63, Nat.mod_mod]

/-- the stored secret of a canonical seed is the 19 bytes of its abstract secret, zero-padded -/
theorem secret_eq (d : Data) (h : d.Canon) : d.secret = Abs.keyPassword (toAbs d) := by
  have := congrArg Data.secret (concr_abs d h)
  simp only [concr, absSeed] at this
  exact this.symm

theorem keygenSalt_eq (d : Data) (coin : Nat) : keygenSalt d coin = Abs.keySalt (toAbs d) coin := by
  unfold keygenSalt Abs.keySalt toAbs
  -- `Abs.le32` is `C04.le32`
  simp only [C04.store32_mod, List.append_assoc]
  rfl

theorem check_eq (d : Data) (h : d.WF) : Abs.check (toAbs d) = checkValue d := by
  unfold Abs.check toAbs
  rw [checkValue_eq_checkWord d h]

/-- the serialization of a canonical seed is the published image of its abstract value -/
theorem store_eq (d : Data) (h : d.Canon) : store d = Abs.storage (toAbs d) := by
  rw [C06.store_bytes d h.toWF]
  unfold Abs.storage Abs.le16
  have hb := h.birthday_lt
  have hf := h.features_lt
  have hc := h.checksum_lt
  have hs : d.secret.take 19 = secretBytes (secretNat d.secret) :=
    (secretBytes_secretNat d.secret h.secret_len_ge h.secret_bytes h.secret_top).symm
  rw [check_eq d h.toWF, ← h.checksum_ok, hs]
  simp only [toAbs]
  have e1 : (d.features * 1024 + d.birthday) / 256 % 256 = (d.features * 1024 + d.birthday) / 256 := by omega
  have e2 : (28672 + d.checksum) / 256 % 256 = (28672 + d.checksum) / 256 := by omega
  rw [e1, e2]

/-- the seed that 16 word indices stand for: the abstract reading agrees with `gf_poly_check` + `polyseed_poly_to_data` -/
theorem ofWords_eq (idx : List Nat) (coin : Nat) (hlen : idx.length = 16) (hidx : Coeffs idx) (hcoin : coin < 2048) :
    (polyCheck (applyCoin idx coin) = true → Abs.ofWords idx coin = some (toAbs (polyToData (applyCoin idx coin)))) ∧
    (polyCheck (applyCoin idx coin) = false → Abs.ofWords idx coin = none) := by
  match idx, hlen with
  | c0 :: c1 :: rest, hlen =>
    have hcs : Coeffs ((c1 ^^^ coin) :: rest) := fun c hc =>
      applyCoin_coeffs (c0 :: c1 :: rest) coin hidx hcoin c (List.mem_cons_of_mem _ hc)
    have hl : ((c1 ^^^ coin) :: rest).length = 15 := by simpa using hlen
    simp only [Abs.ofWords, applyCoin, checkWord_eq _ hcs]
    constructor
    · intro hc
      rw [if_pos ((polyCheck_cons_iff c0 _).mp hc).symm, polyToData_eq_spec c0 _ hl hcs]
      simp only [toAbs]
      rw [secretNat_secretBytes _ (unpack_bounds _ hl hcs).1]
    · intro hc
      exact if_neg fun e => by rw [(polyCheck_cons_iff c0 _).mpr e.symm] at hc; cases hc

theorem allocate_eq (cfg : Cfg) (lib : Lib) (w : World) :
    Abs.allocate w = ((doAlloc cfg lib w).1.map (·.1), (doAlloc cfg lib w).2.2) := by
  unfold Abs.allocate doAlloc
  cases w.allocs <;> rfl

theorem finish_refines (cfg : Cfg) (lib : Lib) (hr : ReservedOK lib) (idx : List Nat) (coin : Nat) (lo : Option Nat)
    (pre : List Event) (w : World) (hlen : idx.length = 16) (hidx : Coeffs idx) (hcoin : coin < 2048) :
    (match Abs.ofWords idx coin with
     | none => (absLib lib, Out.status .checksum none lo, w)
     | some x => Abs.finish (absLib lib) x lo w) =
    (absLib (decodeFinish cfg lib idx coin lo pre w).lib,
     Out.status (decodeFinish cfg lib idx coin lo pre w).out.status (decodeFinish cfg lib idx coin lo pre w).out.seed
       (decodeFinish cfg lib idx coin lo pre w).out.langOut,
     (decodeFinish cfg lib idx coin lo pre w).w) := by
  obtain ⟨hok, hbad⟩ := ofWords_eq idx coin hlen hidx hcoin
  have hsup := fun hc => supported_abs lib hr _ (decoded_canon hlen hidx hcoin hc).features_lt
  rcases decodeFinish_cases cfg lib idx coin lo pre w with
    ⟨hc, e⟩ | ⟨_, _, hc, ha, e⟩ | ⟨_, _, _, _, hc, ha, hs, e⟩ | ⟨_, _, _, _, hc, ha, hs, e⟩ <;> rw [e]
  · rw [hbad hc]
  · simp only [hok hc, Abs.finish, allocate_eq cfg lib w, ha, Option.map_none]
  · simp only [hok hc, Abs.finish, allocate_eq cfg lib w, ha, Option.map_some, toAbs, hsup hc, hs, Bool.not_false, ↓reduceIte]
  · simp only [hok hc, Abs.finish, allocate_eq cfg lib w, ha, Option.map_some, toAbs, hsup hc, hs, Bool.not_true, Bool.false_eq_true,
      ↓reduceIte, abs_put]

theorem imageShape_iff (buf : List Nat) : Abs.imageShape buf = true ↔ C06.WellFormedImage buf := by
  simp only [Abs.imageShape, C06.WellFormedImage, Bool.and_eq_true, beq_iff_eq, decide_eq_true_eq, and_assoc]

/-- reading the image of a well-formed seed gives back its abstract value and its check value -/
theorem ofImage_store (d : Data) (h : d.WF) : Abs.ofImage (store d) = (toAbs d, d.checksum) := by
  rw [C06.store_bytes d h]
  have hb := h.birthday_lt
  have hf := h.features_lt
  have hc := h.checksum_lt
  obtain ⟨b0, b1, b2, b3, b4, b5, b6, b7, b8, b9, b10, b11, b12, b13, b14, b15, b16, b17, b18, rest, hs⟩ :=
    exists19 d.secret h.secret_len_ge
  unfold Abs.ofImage toAbs
  rw [hs]
  simp only [List.take, List.cons_append, List.nil_append, List.getD_cons_succ, List.getD_cons_zero, List.drop_succ_cons, List.drop_zero,
    secretNat]
  refine Prod.ext ?_ ?_
  · simp only
    congr 1
    · omega
    · omega
  · simp only
    omega

theorem load_refines (cfg : Cfg) (env : Env) (lib : Lib) (hr : ReservedOK lib) (buf : List Nat) (w : World)
    (hlen : buf.length = 32) (hb : BytesLt buf) :
    Abs.step cfg env (absLib lib) (.load buf) w =
      (absLib (load cfg lib buf w).lib, Out.status (load cfg lib buf w).out.1 (load cfg lib buf w).out.2 none, (load cfg lib buf w).w) := by
  simp only [Abs.step, allocate_eq cfg lib w]
  rcases ha : doAlloc cfg lib w with ⟨a, e, w1⟩
  cases a with
  | none => rw [load_memory ha]; rfl
  | some bj =>
    obtain ⟨b, junk⟩ := bj
    simp only [Option.map_some]
    by_cases hwf : C06.WellFormedImage buf
    · rw [(imageShape_iff buf).mpr hwf]
      simp only [Bool.not_true, Bool.false_eq_true, ↓reduceIte]
      rcases dataLoad_cases buf with hf | ⟨d, hl⟩
      · exact absurd hwf ((C06.dataLoad_format_iff buf hlen hb).mp hf)
      · obtain ⟨hdw, hst⟩ := dataLoad_ok_inv buf d hlen hb hl
        have himg : Abs.ofImage buf = (toAbs d, d.checksum) := by rw [← hst]; exact ofImage_store d hdw
        rw [himg]
        simp only
        rw [check_eq d hdw, show (toAbs d).F = d.features from rfl, supported_abs lib hr _ hdw.features_lt]
        by_cases he : checkValue d = d.checksum
        · have hc := (polyCheck_cons_iff d.checksum (dataToPoly d)).mpr he.symm
          rw [if_neg (fun h => h he)]
          cases hs : featuresSupported lib.reserved d.features with
          | false => rw [load_unsupported ha hl hc hs]; rfl
          | true => rw [load_ok ha hl hc hs, abs_put]; rfl
        · have hc : polyCheck (d.checksum :: dataToPoly d) = false :=
            Bool.eq_false_iff.mpr fun h => he ((polyCheck_cons_iff _ _).mp h).symm
          rw [if_pos he, load_checksum ha hl hc]
    · rw [Bool.eq_false_iff.mpr fun h => hwf ((imageShape_iff buf).mp h)]
      simp only [Bool.not_false, ↓reduceIte]
      rw [load_format ha ((C06.dataLoad_format_iff buf hlen hb).mpr hwf)]

/-! ## the password operation: XOR of byte strings is XOR of the numbers they spell -/

theorem xor_mul_add (k A B x y : Nat) (hx : x < 2 ^ k) (hy : y < 2 ^ k) :
    (A * 2 ^ k + x) ^^^ (B * 2 ^ k + y) = (A ^^^ B) * 2 ^ k + (x ^^^ y) := by
  apply Nat.eq_of_testBit_eq; intro j
  simp only [Nat.mul_comm _ (2 ^ k), Nat.testBit_xor, Nat.testBit_two_pow_mul_add _ hx, Nat.testBit_two_pow_mul_add _ hy,
    Nat.testBit_two_pow_mul_add _ (Nat.xor_lt_two_pow hx hy)]
  split <;> rfl

theorem join_xor : ∀ (as bs : List Nat), as.length = bs.length → (∀ a ∈ as, a < 256) → (∀ b ∈ bs, b < 256) →
    join 256 (List.zipWith (· ^^^ ·) as bs) = join 256 as ^^^ join 256 bs := by
  intro as
  induction as with
  | nil => intro bs h _ _; cases bs with | nil => rfl | cons => simp at h
  | cons a as ih =>
    intro bs h ha hb
    cases bs with
    | nil => simp at h
    | cons b bs =>
      have hl : as.length = bs.length := by simpa using h
      obtain ⟨-, ha'⟩ := List.forall_mem_cons.mp ha
      obtain ⟨-, hb'⟩ := List.forall_mem_cons.mp hb
      simp only [List.zipWith_cons_cons, join, List.length_zipWith, hl, Nat.min_self]
      rw [ih bs hl ha' hb']
      have e : (256 : Nat) ^ bs.length = 2 ^ (8 * bs.length) := by
        rw [show (256 : Nat) = 2 ^ 8 from rfl, ← Nat.pow_mul]
      have l1 := join_lt 256 as ha'
      have l2 := join_lt 256 bs hb'
      rw [hl] at l1
      rw [e] at l1 l2 ⊢
      exact (xor_mul_add _ a b _ _ l1 l2).symm

/-- the new secret is the old one XOR the first 150 bits of the KDF output -/
theorem secretNat_crypt (s m : List Nat) (hs : 19 ≤ s.length) (hm : 19 ≤ m.length)
    (hsb : ∀ b ∈ s, b < 256) (hmb : ∀ b ∈ m, b < 256) :
    secretNat (C12.cryptSecret s m) = secretNat s ^^^ secretNat m := by
  have ht : (C12.cryptSecret s m).take 18 = List.zipWith (· ^^^ ·) (s.take 18) (m.take 18) := by
    rw [C12.cryptSecret, show SECRET_SIZE - 1 = 18 from rfl, List.take_set_of_le (Nat.le_refl _), show SECRET_SIZE = 19 from rfl,
      C12.xorPrefix_take 19 s m 18 (by omega) hm]
  unfold secretNat
  rw [ht, C12.cryptSecret_getD_of_le s m hs 18, if_neg (by decide), if_pos rfl,
    join_xor _ _ (by simp; omega) (fun a ha => hsb a (List.mem_of_mem_take ha)) (fun b hb => hmb b (List.mem_of_mem_take hb)),
    and_63, Nat.mod_mod, Nat.xor_mod_two_pow (n := 6)]
  exact (xor_mul_add 6 _ _ _ _ (Nat.mod_lt _ (by omega)) (Nat.mod_lt _ (by omega))).symm

theorem absLib_enable (lib : Lib) (m : Nat) : absLib (enable lib m).1 = { absLib lib with mask := m % 8 } := by
  simp only [absLib, (C10.enable_reserved lib m).1]
  rw [show 15 - (15 - m % 8) = m % 8 by omega]
  rfl

/-- the KDF fills the key buffer it is given: `n` bytes -/
def KdfLen (env : Env) : Prop := ∀ f pw salt it n, (env.kdf f pw salt it n).length = n

theorem decompose_deps (cfg : Cfg) (env : Env) (lib : Lib) (s : List Nat) :
    (decompose cfg env ⟨(absLib lib).deps, 0, []⟩ s).1 = (decompose cfg env lib s).1 := rfl

theorem makeFeatures_eq (f : Nat) : makeFeatures (f % 2 ^ 32) = f % 8 := by
  unfold makeFeatures USER_FEATURES_MASK
  rw [and_7]
  omega

theorem encode_refines (cfg : Cfg) (env : Env) (lib : Lib) (d : Data) (h : d.Canon) (L : Lang) (coin : Nat) :
    Abs.phrase cfg env (absLib lib).deps L (toAbs d) coin = (encode cfg env lib d L coin).1 := by
  unfold Abs.phrase encode toAbs
  simp only [encodeTmp_eq_phraseNfkd L d h coin]
  split
  · rfl
  · split <;> rfl

theorem toAbs_crypt (d : Data) (m : List Nat) (h : d.Canon) (hm : ∀ b ∈ m, b < 256) (hl : m.length = 32) :
    toAbs (cryptData d m) = ⟨secretNat d.secret ^^^ secretNat m, d.birthday, d.features ^^^ 16⟩ := by
  unfold toAbs
  rw [C12.cryptData_secret, C12.cryptData_features, C11.crypt_birthday,
    secretNat_crypt d.secret m h.secret_len_ge (by omega) h.secret_bytes hm]

/-- An operation on one seed: both models look the handle up, answer `badHandle` for a dead one and consume no oracle
answer.  So it refines as soon as, on a canonical seed `d` and its abstraction, the two new states correspond and the two
outputs are equal. -/
theorem seed_op_refines {lib : Lib} (hinv : AllCanon lib) (h : Nat) (w : World)
    {lc : Data → Lib} {f : Data → Out} {evs : Data → List Event} {sa : Abs.Seed → Abs.State} {g : Abs.Seed → Out}
    (hd : ∀ d, d.Canon → sa (toAbs d) = absLib (lc d) ∧ g (toAbs d) = f d) :
    (match (absLib lib).get h with
      | none => (absLib lib, Out.badHandle, w)
      | some x => (sa x, g x, w)) =
    (let r : StepRes := match lib.get h with
      | none => ⟨lib, .badHandle, [], w⟩
      | some d => ⟨lc d, f d, evs d, w⟩
     (absLib r.lib, r.out, r.w)) := by
  rw [abs_get]
  cases hg : lib.get h with
  | none => rfl
  | some d => simp only [Option.map_some, hd d (hinv h d hg)]

/-- **Every operation, on every state the library can be in, with every argument and every answer of the injected
functions, gives exactly the output of the abstract model, consumes the same oracle answers, and leaves a state whose
abstraction is the abstract model's new state.** -/
theorem step_refines (cfg : Cfg) (env : Env) (lib : Lib) (op : Op) (w : World) (hcfg : CfgOK cfg) (hor : OraclesOK env w)
    (hk : KdfLen env) (hop : OpOK op) (hinv : AllCanon lib) (hr : ReservedOK lib) :
    Abs.step cfg env (absLib lib) op w =
      (absLib (step cfg env lib op w).lib, (step cfg env lib op w).out, (step cfg env lib op w).w) := by
  cases op with
  | inject d => rfl
  | enable m => simp only [Abs.step, step, absLib_enable, (C10.enable_reserved lib m).2, C10.userBits]
  | create f =>
    simp only [Abs.step, step]
    have hF : f % 8 < 32 := by omega
    rw [supported_abs lib hr _ hF, ← makeFeatures_eq f]
    rcases create_cases cfg lib f w with ⟨hs, e⟩ | ⟨ev, w1, hs, ha, e⟩ | ⟨b, junk, ev, w1, hs, ha, e⟩
    · rw [e, hs]; rfl
    · rw [e, hs]
      simp only [Bool.not_true, Bool.false_eq_true, ↓reduceIte, allocate_eq cfg lib w, ha, Option.map_none]
    · rw [e, hs]
      simp only [Bool.not_true, Bool.false_eq_true, ↓reduceIte, allocate_eq cfg lib w, ha, Option.map_some, abs_put, toAbs_createData]
  | decode s coin =>
    -- `decompose` reads only `lib.deps`.  `simp` uses an `rfl` lemma definitionally only and so misses the `Decidable`
    -- instances of the `if`s; a hypothesis is rewritten everywhere
    have hd := decompose_deps cfg env lib s
    simp only [Abs.step, step, decode_eq, hd]
    by_cases hn : (strSplit cfg.numWords (decompose cfg env lib s).1).2 ≠ cfg.numWords
    · simp only [if_pos hn]
    · by_cases hst : (phraseDecode cfg.langs (strSplit cfg.numWords (decompose cfg env lib s).1).1).status ≠ .ok
      · simp only [if_neg hn, if_pos hst]
      · simp only [if_neg hn, if_neg hst]
        obtain ⟨L, hL, hf⟩ := phraseDecode_ok_sound cfg.langs _ (Decidable.not_not.mp hst)
        obtain ⟨hl, hco⟩ := indices_ok hcfg (hcfg.sizes' L hL) (strSplit_length _ _ (Decidable.not_not.mp hn)) hf
        exact finish_refines cfg lib hr _ coin _ _ w hl hco hop
  | decodeExplicit s coin li =>
    have hd := decompose_deps cfg env lib s
    simp only [Abs.step, step, decodeExplicit_eq, hd]
    by_cases hn : (strSplit cfg.numWords (decompose cfg env lib s).1).2 ≠ cfg.numWords
    · simp only [if_pos hn]
    · rcases hf : findAll (langAt cfg li) (strSplit cfg.numWords (decompose cfg env lib s).1).1 with _ | idx
      · simp [if_neg hn, phraseDecodeExplicit, hf]
      · obtain ⟨hl, hco⟩ := indices_ok hcfg (hcfg.sizes li) (strSplit_length _ _ (Decidable.not_not.mp hn)) hf
        simp only [if_neg hn, phraseDecodeExplicit, hf, ne_eq, not_true_eq_false, ↓reduceIte]
        exact finish_refines cfg lib hr idx coin none _ w hl hco hop
  | load buf => exact load_refines cfg env lib hr buf w hop.1 hop.2
  | free hd =>
    cases hd with
    | none => rfl
    | some b => exact seed_op_refines hinv b w fun _ _ => ⟨(abs_del lib b).symm, rfl⟩
  | encode hh li coin =>
    exact seed_op_refines hinv hh w fun d hd => ⟨rfl, congrArg Out.phrase (encode_refines cfg env lib d hd _ coin)⟩
  | keygen hh coin n =>
    refine seed_op_refines hinv hh w fun d hd => ⟨rfl, ?_⟩
    rw [← secret_eq d hd, ← keygenSalt_eq]
    rfl
  | store hh => exact seed_op_refines hinv hh w fun d hd => ⟨rfl, congrArg Out.bytes (store_eq d hd).symm⟩
  | crypt hh pw =>
    refine seed_op_refines hinv hh w fun d hd => ⟨?_, rfl⟩
    show _ = absLib (lib.update hh (cryptData d _))
    rw [abs_update, toAbs_crypt d _ hd (hor.kdf_bytes _ _ _ _ _) (hk _ _ _ _ _)]
    rfl
  | getBirthday hh =>
    exact seed_op_refines hinv hh w fun d hd => ⟨rfl, congrArg Out.num (C11.birthday_form d.birthday hd.birthday_lt).1.symm⟩
  | getFeature hh m =>
    exact seed_op_refines hinv hh w fun d _ => ⟨rfl, congrArg (fun k => Out.num (d.features &&& k)) (makeFeatures_eq m).symm⟩
  | isEncrypted hh => exact seed_op_refines hinv hh w fun d _ => ⟨rfl, congrArg Out.num (C12.isEncryptedSeed_eq d).symm⟩

theorem reserved_step (cfg : Cfg) (env : Env) (lib : Lib) (op : Op) (w : World) (hr : ReservedOK lib) :
    ReservedOK (step cfg env lib op w).lib := by
  have hx := step_exit cfg env lib op w
  generalize step cfg env lib op w = r at hx ⊢
  cases hx with
  | enable m => unfold ReservedOK; rw [(C10.enable_reserved lib m).1]; omega
  | _ => exact hr

theorem reserved_init : ReservedOK Lib.init := by
  unfold ReservedOK Lib.init
  decide

/-- **Any finite sequence of API calls behaves like the abstract seed model**: from any state the library can be in
(all seeds canonical - in particular the initial state), for every history, every argument and every answer of the
injected random source, clock, allocator, KDF and normalisers, the list of outputs is exactly that of the abstract
model started in the abstraction of that state, and the final states correspond. -/
theorem run_refines (cfg : Cfg) (env : Env) (hcfg : CfgOK cfg) (hk : KdfLen env) : ∀ (ops : List Op) (lib : Lib) (w : World),
    OraclesOK env w → (∀ op ∈ ops, OpOK op) → AllCanon lib → ReservedOK lib →
    Abs.run cfg env (absLib lib) ops w =
      (absLib (run cfg env lib ops w).1, (run cfg env lib ops w).2.1, (run cfg env lib ops w).2.2.2) := by
  intro ops
  induction ops with
  | nil => intro lib w _ _ _ _; rfl
  | cons op ops ih =>
    intro lib w hor hops hinv hr
    have hop := hops op (by simp)
    simp only [Abs.run, run, step_refines cfg env lib op w hcfg hor hk hop hinv hr]
    rw [ih (step cfg env lib op w).lib (step cfg env lib op w).w
      (hor.step cfg lib op) (fun o ho => hops o (by simp [ho]))
      (inv_step cfg env lib op w hcfg hor hop hinv)
      (reserved_step cfg env lib op w hr)]

theorem run_refines_init (cfg : Cfg) (env : Env) (hcfg : CfgOK cfg) (hk : KdfLen env) (ops : List Op) (w : World)
    (hor : OraclesOK env w) (hops : ∀ op ∈ ops, OpOK op) :
    (Abs.run cfg env Abs.State.init ops w).2.1 = (run cfg env Lib.init ops w).2.1 := by
  have := run_refines cfg env hcfg hk ops Lib.init w hor hops inv_init reserved_init
  rw [show absLib Lib.init = Abs.State.init from rfl] at this
  rw [this]

/-! ## the premises are met, and both models compute: a small history evaluated by the kernel -/

def cfg0 : Cfg := { strSize := 544, sizeofData := 48, sizeofPoly := 128, sizeofPhrase := 128, sizeofIdx := 128, numWords := 16, langs := [] }
def env0 : Env := { kdf := fun _ _ _ _ n => List.replicate n 7, nfc := fun _ s => s, nfkd := fun _ s => s }
def w0 : World :=
  { rands := [[1, 2, 3, 4, 5, 6, 7, 8, 9, 10, 11, 12, 13, 14, 15, 16, 17, 18, 255]], times := [1700000000], allocs := [some (5, default)] }
def ops0 : List Op := [.enable 1, .create 1, .store 5, .getBirthday 5, .crypt 5 [112], .isEncrypted 5, .keygen 5 0 4]

example : CfgOK cfg0 :=
  ⟨rfl, fun li => by simp [langAt, cfg0]; exact Nat.zero_le _, fun L hL => by simp [cfg0] at hL⟩
example : KdfLen env0 := fun _ _ _ _ n => by simp [env0]
example : OraclesOK env0 w0 :=
  ⟨fun _ _ _ _ n b hb => by simp [env0] at hb; omega, fun r hr b hb => by simp [w0] at hr; subst hr; simp at hb; omega⟩
example : ∀ op ∈ ops0, OpOK op := by
  intro op h
  simp only [ops0, List.mem_cons, List.not_mem_nil, or_false] at h
  rcases h with rfl | rfl | rfl | rfl | rfl | rfl | rfl <;> trivial

/-- created at 1700000000 with feature 1 from random bytes 1..18,255: the image, the birthday, the flag after the
password operation - computed by the ABSTRACT model -/
example : (Abs.run cfg0 env0 Abs.State.init ops0 w0).2.1 =
    [.num 1, .status .ok (some 5) none,
     .bytes [80, 79, 76, 89, 83, 69, 69, 68, 24, 4, 1, 2, 3, 4, 5, 6, 7, 8, 9, 10, 11, 12, 13, 14, 15, 16, 17, 18, 63, 255, 99, 117],
     .num 1698881904, .unit, .num 1, .bytes [7, 7, 7, 7]] := by rfl

end Polyseed.C13R
