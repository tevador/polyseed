import Polyseed.Props.C13
/-!
# C20 — concurrent use of distinct seeds from several threads is race-free (model part)

`thread_serial`: in EVERY interleaving each thread observes exactly the results of a serial execution of its own
calls (other threads make no global calls and the threads' seed objects are distinct).  The induction over the
interleaving carries `Agree own`: the interleaved and the serial state have the same globals and the same seeds in the
thread's own blocks.  A call of the thread itself keeps it and returns the same on both (`step_sim`, from which
`step_local`, locality, and `step_agree`, pointwise congruence, are read off); a call of another thread keeps it by
`step_untouched` (frame).

The model has exactly three pieces of state: the injected-dependency table, the feature mask and the seed
blocks.  Once injection and feature configuration are done, a call reads the first two and touches only the
seed it is given or the fresh block it obtains (`C13.frame`).  The writable-symbol inventory (S-syms) checks
that the compiled library has no other writable static storage, ThreadSanitizer checks the absence of data
races on sampled schedules.
-/
namespace Polyseed.C20

/-- the two calls that write the library's global variables: injection and feature configuration -/
def Global : Op → Prop
  | .inject _ => True
  | .enable _ => True
  | _ => False

theorem globals_unchanged (cfg : Cfg) (env : Env) (lib : Lib) (op : Op) (w : World) (h : ¬ Global op) :
    (step cfg env lib op w).lib.deps = lib.deps ∧ (step cfg env lib op w).lib.reserved = lib.reserved := by
  have hx := step_exit cfg env lib op w
  generalize step cfg env lib op w = r at hx ⊢
  cases hx with
  | inject _ | enable _ => exact absurd trivial h
  | _ => exact ⟨rfl, rfl⟩

/-- a call of another thread (any non-global call not aimed at seed `x`) leaves thread-owned seed `x` exactly as it was -/
theorem other_thread_frame (cfg : Cfg) (env : Env) (lib : Lib) (op : Op) (w : World) (hinv : C15.Inv lib w)
    (x : Nat) (d : Data) (hx : lib.get x = some d) (hne : C13.target op ≠ some x) :
    (step cfg env lib op w).lib.get x = some d := C13.frame cfg env lib op w hinv x d hx hne

/-- the seeds a call is given -/
def handles : Op → List Nat
  | .free (some b) => [b]
  | .encode h _ _ => [h]
  | .keygen h _ _ => [h]
  | .store h => [h]
  | .crypt h _ => [h]
  | .getBirthday h => [h]
  | .getFeature h _ => [h]
  | .isEncrypted h => [h]
  | _ => []

/-- What one call does on two library states: the same return value, dependency calls and oracle consumption,
and the same seed afterwards in every block that held the same seed before. -/
structure Sim (l1 l2 : Lib) (r1 r2 : StepRes) : Prop where
  out : r1.out = r2.out
  events : r1.events = r2.events
  w : r1.w = r2.w
  get : ∀ x, l1.get x = l2.get x → r1.lib.get x = r2.lib.get x

theorem Sim.of_lib {l1 l2 m1 m2 : Lib} {o : Out} {e : List Event} {w : World}
    (h : ∀ x, l1.get x = l2.get x → m1.get x = m2.get x) : Sim l1 l2 ⟨m1, o, e, w⟩ ⟨m2, o, e, w⟩ :=
  ⟨rfl, rfl, rfl, h⟩

theorem Sim.same {l1 l2 : Lib} {o : Out} {e : List Event} {w : World} : Sim l1 l2 ⟨l1, o, e, w⟩ ⟨l2, o, e, w⟩ :=
  .of_lib fun _ hx => hx

theorem Sim.put {l1 l2 : Lib} {o : Out} {e : List Event} {w : World} {b : Nat} {d : Data} :
    Sim l1 l2 ⟨l1.put b d, o, e, w⟩ ⟨l2.put b d, o, e, w⟩ :=
  .of_lib fun x hx => by rw [Lib.get_put, Lib.get_put, hx]

theorem decodeFinish_sim (cfg : Cfg) (deps : Deps) (reserved : Nat) (heap1 heap2 : List (Nat × Data)) (idx : List Nat) (coin : Nat)
    (lo : Option Nat) (pre : List Event) (w : World) :
    let r1 := decodeFinish cfg ⟨deps, reserved, heap1⟩ idx coin lo pre w
    let r2 := decodeFinish cfg ⟨deps, reserved, heap2⟩ idx coin lo pre w
    Sim ⟨deps, reserved, heap1⟩ ⟨deps, reserved, heap2⟩
      ⟨r1.lib, .status r1.out.status r1.out.seed r1.out.langOut, r1.events, r1.w⟩
      ⟨r2.lib, .status r2.out.status r2.out.seed r2.out.langOut, r2.events, r2.w⟩ := by
  -- which exit is taken depends on the globals and the oracles only, so the same equation describes both states
  rcases decodeFinish_cases cfg ⟨deps, reserved, heap1⟩ idx coin lo pre w with
    ⟨hc, e⟩ | ⟨_, _, hc, ha, e⟩ | ⟨_, _, _, _, hc, ha, hs, e⟩ | ⟨_, _, _, _, hc, ha, hs, e⟩ <;> simp only [e]
  · rw [decodeFinish_checksum (lib := ⟨deps, reserved, heap2⟩) hc]; exact .same
  · rw [decodeFinish_memory (lib := ⟨deps, reserved, heap2⟩) hc ha]; exact .same
  · rw [decodeFinish_unsupported (lib := ⟨deps, reserved, heap2⟩) hc ha hs]; exact .same
  · rw [decodeFinish_ok (lib := ⟨deps, reserved, heap2⟩) hc ha hs]; exact .put

/-- The case analysis behind `step_local` and `step_agree`: with the same globals, a call that finds the same seeds
under the handles it is given does the same on both states.  (The two states are written as `Lib.mk` with the same
`deps` and `reserved` so that what a call reads from the globals is the same term on both sides, and `rfl` sees it.) -/
theorem step_sim (cfg : Cfg) (env : Env) (deps : Deps) (reserved : Nat) (heap1 heap2 : List (Nat × Data)) (op : Op) (w : World)
    (hget : ∀ h ∈ handles op, (Lib.mk deps reserved heap1).get h = (Lib.mk deps reserved heap2).get h) :
    Sim ⟨deps, reserved, heap1⟩ ⟨deps, reserved, heap2⟩
      (step cfg env ⟨deps, reserved, heap1⟩ op w) (step cfg env ⟨deps, reserved, heap2⟩ op w) := by
  cases op with
  | inject _ | enable _ => exact .of_lib fun _ hx => hx
  | free hd =>
    cases hd with
    | none => exact .same
    | some b =>
      have := hget b (by simp [handles])
      simp only [step, this]
      cases (Lib.mk deps reserved heap2).get b with
      | none => exact .same
      | some d => exact .of_lib fun x hx => by simp only [free]; rw [Lib.get_del, Lib.get_del, hx]
  | encode h _ _ | keygen h _ _ | store h | getBirthday h | getFeature h _ | isEncrypted h =>
    have := hget h (by simp [handles])
    simp only [step, this]
    cases (Lib.mk deps reserved heap2).get h <;> exact .same
  | crypt h pw =>
    have hh := hget h (by simp [handles])
    simp only [step, hh]
    cases (Lib.mk deps reserved heap2).get h with
    | none => exact .same
    | some d =>
      exact .of_lib fun x hx => by simp only [crypt, decompose]; rw [Lib.get_update, Lib.get_update, hx, hh]
  -- the constructors do not read the heap: which exit is taken depends on the globals and the oracles only, so the same
  -- equation describes the call on both states, and every exit leaves the heap alone or puts the new seed into the fresh block
  | create f =>
    simp only [step]
    rcases create_cases cfg ⟨deps, reserved, heap1⟩ f w with ⟨hs, e⟩ | ⟨_, _, hs, ha, e⟩ | ⟨_, _, _, _, hs, ha, e⟩ <;> rw [e]
    · rw [create_unsupported (lib := ⟨deps, reserved, heap2⟩) hs]; exact .same
    · rw [create_memory (lib := ⟨deps, reserved, heap2⟩) hs ha]; exact .same
    · rw [create_ok (lib := ⟨deps, reserved, heap2⟩) hs ha]; exact .put
  | load buf =>
    simp only [step]
    rcases ha : doAlloc cfg ⟨deps, reserved, heap1⟩ w with ⟨_ | ⟨b, junk⟩, e, w1⟩
    · rw [load_memory ha, load_memory (lib := ⟨deps, reserved, heap2⟩) ha]; exact .same
    · rcases load_cases buf ha with ⟨hl, e⟩ | ⟨d, hl, ⟨hc, e⟩ | ⟨hc, hs, e⟩ | ⟨hc, hs, e⟩⟩ <;> rw [e]
      · rw [load_format (lib := ⟨deps, reserved, heap2⟩) ha hl]; exact .same
      · rw [load_checksum (lib := ⟨deps, reserved, heap2⟩) ha hl hc]; exact .same
      · rw [load_unsupported (lib := ⟨deps, reserved, heap2⟩) ha hl hc hs]; exact .same
      · rw [load_ok (lib := ⟨deps, reserved, heap2⟩) ha hl hc hs]; exact .put
  | decode s coin | decodeExplicit s coin _ =>
    -- `decompose` reads only `deps`, so the tokens are the same on both states
    simp only [step, decode_eq, decodeExplicit_eq,
      show decompose cfg env ⟨deps, reserved, heap2⟩ s = decompose cfg env ⟨deps, reserved, heap1⟩ s from rfl]
    generalize decompose cfg env ⟨deps, reserved, heap1⟩ s = dc
    generalize strSplit cfg.numWords dc.1 = sp
    split
    · exact .same
    · split
      · exact .same
      · exact decodeFinish_sim ..

/-- **locality**: what a call returns, which dependency calls it makes and which oracle answers it consumes
depend on the library state only through the injected-dependency table, the feature mask and the seeds it is given. -/
theorem step_local (cfg : Cfg) (env : Env) (deps : Deps) (reserved : Nat) (heap1 heap2 : List (Nat × Data)) (op : Op) (w : World)
    (hget : ∀ h ∈ handles op, (Lib.mk deps reserved heap1).get h = (Lib.mk deps reserved heap2).get h) :
    (step cfg env ⟨deps, reserved, heap1⟩ op w).out = (step cfg env ⟨deps, reserved, heap2⟩ op w).out ∧
    (step cfg env ⟨deps, reserved, heap1⟩ op w).events = (step cfg env ⟨deps, reserved, heap2⟩ op w).events ∧
    (step cfg env ⟨deps, reserved, heap1⟩ op w).w = (step cfg env ⟨deps, reserved, heap2⟩ op w).w :=
  have h := step_sim cfg env deps reserved heap1 heap2 op w hget
  ⟨h.out, h.events, h.w⟩

/-- **pointwise congruence**: if two library states with the same globals agree on the seeds a call is given,
then after the call they still agree at every block where they agreed before. -/
theorem step_agree (cfg : Cfg) (env : Env) (deps : Deps) (reserved : Nat) (heap1 heap2 : List (Nat × Data)) (op : Op) (w : World)
    (hget : ∀ h ∈ handles op, (Lib.mk deps reserved heap1).get h = (Lib.mk deps reserved heap2).get h)
    (x : Nat) (hx : (Lib.mk deps reserved heap1).get x = (Lib.mk deps reserved heap2).get x) :
    (step cfg env ⟨deps, reserved, heap1⟩ op w).lib.get x = (step cfg env ⟨deps, reserved, heap2⟩ op w).lib.get x :=
  (step_sim cfg env deps reserved heap1 heap2 op w hget).get x hx

/-- the block the allocator will hand out to this call, if any -/
def nextId (w : World) : Option Nat := (w.allocs.headD none).map (·.1)

theorem target_mem_handles {op : Op} {x : Nat} (h : C13.target op = some x) : x ∈ handles op := by
  cases op with
  | free hd =>
    cases hd with
    | none => cases h
    | some b => cases h; exact List.mem_singleton_self _
  | crypt b _ => cases h; exact List.mem_singleton_self _
  | _ => cases h

/-- a call leaves every block alone that it is not given and that is not the fresh block it obtains -/
theorem step_untouched (cfg : Cfg) (env : Env) (lib : Lib) (op : Op) (w : World) (x : Nat)
    (hh : x ∉ handles op) (hn : nextId w ≠ some x) : (step cfg env lib op w).lib.get x = lib.get x :=
  C13.step_get_other cfg env lib op w x (fun e => hh (target_mem_handles e)) hn

/-- the globals after a call depend only on the globals before and on the call -/
theorem step_globals (cfg : Cfg) (env : Env) (deps : Deps) (reserved : Nat) (heap1 heap2 : List (Nat × Data)) (op : Op) (w : World) :
    (step cfg env ⟨deps, reserved, heap1⟩ op w).lib.deps = (step cfg env ⟨deps, reserved, heap2⟩ op w).lib.deps ∧
    (step cfg env ⟨deps, reserved, heap1⟩ op w).lib.reserved = (step cfg env ⟨deps, reserved, heap2⟩ op w).lib.reserved := by
  by_cases hg : Global op
  · cases op with
    | inject _ | enable _ => exact ⟨rfl, rfl⟩
    | _ => exact False.elim hg
  · have h := fun l => globals_unchanged cfg env l op w hg
    rw [(h _).1, (h _).2, (h _).1, (h _).2]
    exact ⟨rfl, rfl⟩

/-- outputs of thread `t`'s calls in an interleaved history; every entry carries the oracle answers that call receives -/
def runT (cfg : Cfg) (env : Env) (t : Nat) : Lib → List (Nat × Op × World) → List Out
  | _, [] => []
  | lib, (u, op, w) :: rest =>
    (if u = t then [(step cfg env lib op w).out] else []) ++ runT cfg env t (step cfg env lib op w).lib rest

/-- outputs of a serial execution -/
def runS (cfg : Cfg) (env : Env) : Lib → List (Op × World) → List Out
  | _, [] => []
  | lib, (op, w) :: rest => (step cfg env lib op w).out :: runS cfg env (step cfg env lib op w).lib rest

/-- thread `t`'s own calls, in order -/
def mine (t : Nat) (hist : List (Nat × Op × World)) : List (Op × World) :=
  (hist.filter (fun e => e.1 == t)).map (·.2)

/-- blocks thread `t` ever names as a handle or is ever handed by the allocator -/
def Owns (calls : List (Op × World)) (x : Nat) : Prop :=
  ∃ c ∈ calls, x ∈ handles c.1 ∨ nextId c.2 = some x

structure Agree (S : Nat → Prop) (l1 l2 : Lib) : Prop where
  deps : l1.deps = l2.deps
  reserved : l1.reserved = l2.reserved
  get : ∀ x, S x → l1.get x = l2.get x

theorem Agree.own_step {S : Nat → Prop} {l1 l2 : Lib} (h : Agree S l1 l2) (cfg : Cfg) (env : Env) (op : Op) (w : World)
    (hop : ∀ x ∈ handles op, S x) :
    (step cfg env l1 op w).out = (step cfg env l2 op w).out ∧
      Agree S (step cfg env l1 op w).lib (step cfg env l2 op w).lib := by
  obtain ⟨deps, reserved, heap1⟩ := l1
  obtain ⟨_, _, heap2⟩ := l2
  obtain ⟨rfl, rfl, hg⟩ := h
  have hs := step_sim cfg env deps reserved heap1 heap2 op w fun x hx => hg x (hop x hx)
  have hgl := step_globals cfg env deps reserved heap1 heap2 op w
  exact ⟨hs.out, hgl.1, hgl.2, fun x hx => hs.get x (hg x hx)⟩

theorem Agree.other_step {S : Nat → Prop} {l1 l2 : Lib} (h : Agree S l1 l2) (cfg : Cfg) (env : Env) {op : Op} {w : World}
    (hng : ¬ Global op) (hdis : ∀ x, S x → x ∉ handles op ∧ nextId w ≠ some x) :
    Agree S (step cfg env l1 op w).lib l2 :=
  ⟨(globals_unchanged cfg env l1 op w hng).1.trans h.deps, (globals_unchanged cfg env l1 op w hng).2.trans h.reserved,
    fun x hx => (step_untouched cfg env l1 op w x (hdis x hx).1 (hdis x hx).2).trans (h.get x hx)⟩

theorem thread_serial_of_agree (cfg : Cfg) (env : Env) (t : Nat) :
    ∀ (hist : List (Nat × Op × World)) (l1 l2 : Lib) (own : Nat → Prop),
      (∀ x, Owns (mine t hist) x → own x) →
      (∀ e ∈ hist, e.1 ≠ t → ¬ Global e.2.1 ∧ ∀ x, own x → x ∉ handles e.2.1 ∧ nextId e.2.2 ≠ some x) →
      Agree own l1 l2 → runT cfg env t l1 hist = runS cfg env l2 (mine t hist) := by
  intro hist
  induction hist with
  | nil => intros; rfl
  | cons e rest ih =>
    intro l1 l2 own hown hother hag
    obtain ⟨u, op, w⟩ := e
    have hrest := fun e he => hother e (List.mem_cons_of_mem _ he)
    by_cases hu : u = t
    · subst hu
      have hmine : mine u ((u, op, w) :: rest) = (op, w) :: mine u rest := by simp [mine]
      rw [hmine] at hown ⊢
      obtain ⟨ho, hag'⟩ := hag.own_step cfg env op w fun x hx => hown x ⟨(op, w), by simp, .inl hx⟩
      simp only [runT, ↓reduceIte, runS, List.singleton_append, ho]
      congr 1
      exact ih _ _ own (fun x ⟨c, hc, hcx⟩ => hown x ⟨c, by simp [hc], hcx⟩) hrest hag'
    · have hmine : mine t ((u, op, w) :: rest) = mine t rest := by simp [mine, hu]
      obtain ⟨hng, hdis⟩ := hother (u, op, w) (by simp) hu
      rw [hmine] at hown ⊢
      simp only [runT, hu, ↓reduceIte, List.nil_append]
      exact ih _ _ own hown hrest (hag.other_step cfg env hng hdis)

/-- **Each thread observes exactly the results a serial execution of its own calls would give**, in EVERY
interleaving, provided the other threads make no injection / feature-configuration calls and neither name nor
are handed a block of this thread (distinct seed objects; the allocator never hands a live block to two owners). -/
theorem thread_serial (cfg : Cfg) (env : Env) (t : Nat) :
    ∀ (hist : List (Nat × Op × World)) (deps : Deps) (reserved : Nat) (hi hs : List (Nat × Data)) (own : Nat → Prop),
      (∀ x, Owns (mine t hist) x → own x) →
      (∀ e ∈ hist, e.1 ≠ t → ¬ Global e.2.1 ∧ ∀ x, own x → x ∉ handles e.2.1 ∧ nextId e.2.2 ≠ some x) →
      (∀ x, own x → (Lib.mk deps reserved hi).get x = (Lib.mk deps reserved hs).get x) →
      runT cfg env t ⟨deps, reserved, hi⟩ hist = runS cfg env ⟨deps, reserved, hs⟩ (mine t hist) :=
  fun hist _ _ _ _ own hown hother hagree => thread_serial_of_agree cfg env t hist _ _ own hown hother ⟨rfl, rfl, hagree⟩

end Polyseed.C20
