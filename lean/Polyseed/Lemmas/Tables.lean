import Polyseed.Lemmas.Basic
import Polyseed.Lemmas.Rule
import Polyseed.Lemmas.Search
/-!
# Kernel-evaluated facts about one word table, and what follows from them

`orderCheck L` is a `Bool` the kernel evaluates on the regenerated table (`decide_table`): 2048 words, every byte in
1..255 and not a space, no empty word, and the list is in the order the library's search needs - for a sorted list the
comparison forms, cut to four letters where abbreviation is allowed, increase strictly under `compare_str` (so the list
is sorted AND no two words share a four-letter prefix); for an unsorted list the words are distinct.  From the order,
`findWord_of_rule`: whatever the matching rule accepts for word `i` is found at index `i`.  `TableOK` is the
propositional form the property theorems use (`tableOK_of_orderCheck`).  `langChecks` adds the prefix codes and the empty
token, so that each table is evaluated once; `phraseFits` is the evaluation behind C17.
-/
namespace Polyseed

def wordBytesOk (w : List Nat) : Bool :=
  !w.isEmpty && w.all (fun b => Nat.blt 0 b && Nat.blt b 256 && !(Nat.beq b 32))

theorem wordBytesOk_iff (w : List Nat) : wordBytesOk w = true ↔ w ≠ [] ∧ ∀ b ∈ w, 0 < b ∧ b < 256 ∧ b ≠ 32 := by
  simp only [wordBytesOk, Bool.and_eq_true, Bool.not_eq_true', List.isEmpty_eq_false_iff, List.all_eq_true, Nat.blt_eq,
    and_assoc]
  exact and_congr_right fun _ => forall₂_congr fun b _ => and_congr_right fun _ => and_congr_right fun _ =>
    ⟨Nat.ne_of_beq_eq_false, fun h => Bool.eq_false_iff.mpr fun e => h (Nat.eq_of_beq_eq_true e)⟩

theorem bytesOK_of_wordBytesOk {w : List Nat} (h : w ≠ [] ∧ ∀ b ∈ w, 0 < b ∧ b < 256 ∧ b ≠ 32) : BytesOK w :=
  fun b hb => ⟨(h.2 b hb).1, (h.2 b hb).2.1⟩

/-- fold over a bitmap: `false` as soon as a code repeats or a word has no code -/
def distinctCodes (code : List Nat → Option Nat) : List (List Nat) → Nat → Bool
  | [], _ => true
  | w :: ws, seen =>
    match code w with
    | none => false
    | some c => if seen.testBit c then false else distinctCodes code ws (seen ||| (1 <<< c))

theorem distinctCodes_sound (code : List Nat → Option Nat) : ∀ (ws : List (List Nat)) (seen : Nat), distinctCodes code ws seen = true →
    (∀ w ∈ ws, ∃ c, code w = some c ∧ seen.testBit c = false) ∧ ws.Pairwise (fun a b => code a ≠ code b) := by
  intro ws
  induction ws with
  | nil => intro _ _; exact ⟨by simp, .nil⟩
  | cons w ws ih =>
    intro seen h
    unfold distinctCodes at h
    split at h
    · simp at h
    · rename_i c hc
      split at h
      · simp at h
      · rename_i hseen
        obtain ⟨h1, h2⟩ := ih _ h
        -- a later word's code is not in the bitmap that already holds `c`
        have later : ∀ x ∈ ws, ∃ cx, code x = some cx ∧ seen.testBit cx = false ∧ c ≠ cx := by
          intro x hx
          obtain ⟨cx, hcx, ht⟩ := h1 x hx
          simp only [Nat.testBit_or, Nat.one_shiftLeft, Nat.testBit_two_pow, Bool.or_eq_false_iff, decide_eq_false_iff_not] at ht
          exact ⟨cx, hcx, ht.1, ht.2⟩
        refine ⟨fun x hx => ?_, .cons (fun x hx => ?_) h2⟩
        · rcases List.mem_cons.mp hx with rfl | hx
          · exact ⟨c, hc, by simpa using hseen⟩
          · obtain ⟨cx, hcx, ht, _⟩ := later x hx; exact ⟨cx, hcx, ht⟩
        · obtain ⟨cx, hcx, _, hne⟩ := later x hx
          rw [hc, hcx]; exact fun e => hne (Option.some.inj e)

/-- the code of a word of the unsorted lists, whose words are single CJK characters of three bytes: its value in base
256, counted from U+4000 (first byte 0xE4) so that the bitmap stays 48 KB instead of 2 MB per update -/
def cjkCode (w : List Nat) : Option Nat :=
  match w with
  | [a, b, c] => if 228 ≤ a then some ((a - 228) * 65536 + b * 256 + c) else none
  | _ => none

/-- the proper prefixes of at least four bytes -/
def prefixes4 (e : List Nat) : List (List Nat) :=
  (List.range e.length).filterMap (fun n => if 4 ≤ n then some (e.take n) else none)

/-- the tokens that must be found at the index of table word `w`: the word as listed; for the abbreviating
languages also its comparison form (`strip w` if the language folds accents, `w` otherwise) and every proper
prefix of at least four letters of that form. -/
def keysOf (L : Lang) (w : List Nat) : List (List Nat) :=
  if L.hasPrefix then
    let e := if L.hasAccents then strip w else w
    w :: e :: prefixes4 e
  else [w]

theorem mem_prefixes4 (e t : List Nat) : t ∈ prefixes4 e ↔ ∃ n, 4 ≤ n ∧ n < e.length ∧ t = e.take n := by
  simp only [prefixes4, List.mem_filterMap, List.mem_range]
  constructor
  · rintro ⟨n, hn, h⟩
    split at h <;> cases h
    exact ⟨n, ‹_›, hn, rfl⟩
  · rintro ⟨n, h4, hn, rfl⟩
    exact ⟨n, hn, if_pos h4⟩

theorem mem_keysOf_self (L : Lang) (w : List Nat) : w ∈ keysOf L w := by
  unfold keysOf; split <;> simp

/-- what the property theorems assume of a word table (C01, C02, C08 on phrases); `tableOK_of_orderCheck` supplies it -/
structure TableOK (L : Lang) : Prop where
  size : L.words.size = 2048
  bytes : ∀ w ∈ L.words.toList, w ≠ [] ∧ ∀ b ∈ w, 0 < b ∧ b < 256 ∧ b ≠ 32
  finds : ∀ i (hi : i < L.words.size), findWord L L.words[i] = some i
  /-- every admissible abbreviation is found at the word's index (sorted lists) -/
  findsKeys : L.isSorted = true → ∀ i (hi : i < L.words.size), ∀ k ∈ keysOf L L.words[i], findWord L k = some i

theorem TableOK.bytesOK {L : Lang} (hT : TableOK L) (i : Nat) (hi : i < L.words.size) : BytesOK L.words[i] :=
  bytesOK_of_wordBytesOk (hT.bytes _ (by simp))

/-- all 16 (or any number of) full words of a checked table are recognised as their own indices. -/
theorem findAll_words (L : Lang) (hT : TableOK L) : ∀ (idx : List Nat), (∀ i ∈ idx, i < 2048) →
    findAll L (idx.map (fun i => L.words.getD i [])) = some idx := by
  intro idx
  induction idx with
  | nil => intro _; rfl
  | cons i is ih =>
    intro h
    have hi : i < L.words.size := by rw [hT.size]; exact h i (by simp)
    have hw : L.words.getD i [] = L.words[i] := by simp [Array.getD, hi]
    simp only [List.map_cons, findAll, hw, hT.finds i hi, ih (fun x hx => h x (by simp [hx]))]

/-- the words of a checked table survive joining and splitting -/
theorem words_nonempty_nospace (L : Lang) (hT : TableOK L) (idx : List Nat) (hidx : ∀ i ∈ idx, i < 2048) :
    ∀ t ∈ idx.map (fun i => L.words.getD i []), t ≠ [] ∧ ∀ b ∈ t, b ≠ 32 := by
  intro t ht
  obtain ⟨c, hc, rfl⟩ := List.mem_map.mp ht
  have hlt : c < L.words.size := by rw [hT.size]; exact hidx c hc
  rw [show L.words.getD c [] = L.words[c] by simp [Array.getD, hlt]]
  obtain ⟨h1, h2⟩ := hT.bytes L.words[c] (by simp)
  exact ⟨h1, fun b hb => (h2 b hb).2.2⟩

/-- the comparison form of a word, cut to the four letters that decide a lookup where abbreviation is allowed -/
def sortKey (L : Lang) (w : List Nat) : List Nat := if L.hasPrefix then (form L w).take 4 else form L w

def increasing : List (List Nat) → Bool
  | a :: b :: rest => decide (cmpStr a b < 0) && increasing (b :: rest)
  | _ => true

/-- what the kernel evaluates per table: 2048 well-formed words; in a sorted list the sort keys increase strictly, in an
unsorted list (exact comparison only) the words are distinct -/
def orderCheck (L : Lang) : Bool :=
  Nat.beq L.words.size 2048 && L.words.toList.all wordBytesOk &&
    (if L.isSorted then increasing (L.words.toList.map (sortKey L))
     else (!L.hasPrefix && !L.hasAccents) && distinctCodes cjkCode L.words.toList 0)

theorem increasing_pairwise : ∀ l : List (List Nat), increasing l = true → l.Pairwise (fun a b => cmpStr a b < 0)
  | [], _ => .nil
  | [_], _ => .cons (by simp) .nil
  | a :: b :: rest, h => by
    simp only [increasing, Bool.and_eq_true, decide_eq_true_eq] at h
    have ih := increasing_pairwise (b :: rest) h.2
    refine .cons (fun x hx => ?_) ih
    rcases List.mem_cons.mp hx with rfl | hx
    · exact h.1
    · exact cmpStr_trans h.1 (List.rel_of_pairwise_cons ih hx)

/-- a token the rule accepts for `w` compares equal with `w`, and with any other word `v` the way the sort keys of `w`
and `v` compare -/
theorem cmp_of_rule (L : Lang) (tok w : List Nat) (h : C08.Rule L tok w) :
    getComparer L tok w = 0 ∧ ∀ v, (cmpStr (sortKey L w) (sortKey L v) < 0 → getComparer L tok v < 0) ∧
      (cmpStr (sortKey L v) (sortKey L w) < 0 → 0 < getComparer L tok v) := by
  rw [C08.rule_iff] at h
  -- the token's form is that of `w` cut at its own length, and a real cut lies behind the fourth letter
  have hcut := List.prefix_iff_eq_take.mp (h.elim prefix_of_eq (·.2.2))
  have lift : ∀ a b, cmpStr (sortKey L a) (sortKey L b) < 0 → cmpStr (form L a) (form L b) < 0 := by
    intro a b; unfold sortKey; split
    · exact cmpStr_of_take
    · exact id
  have pos : ∀ a b : List Nat, cmpStr b a < 0 → 0 < cmpStr a b := fun a b h => by rw [cmpStr_swap] at h; omega
  simp only [getComparer_eq]
  by_cases hP : L.hasPrefix = true ∧ 4 ≤ (form L tok).length
  · simp only [if_pos hP]
    simp only [sortKey, hP.1, ↓reduceIte]
    -- `hcut` rewrites `form L tok`, which also stands inside its own right-hand side: name the length first
    generalize (form L tok).length = m at hcut hP
    rw [hcut]
    exact ⟨cmpStr_self _, fun v => ⟨fun h => cmpStr_take h hP.2, fun h => pos _ _ (cmpStr_take h hP.2)⟩⟩
  · simp only [if_neg hP]
    rw [h.resolve_right fun h' => hP ⟨h'.1, h'.2.1⟩]
    exact ⟨cmpStr_self _, fun v => ⟨lift _ _, fun h => pos _ _ (lift _ _ h)⟩⟩

/-- **what the rule accepts for word `i` of a sorted list is found at index `i`** -/
theorem findWord_of_rule (L : Lang) (hs : L.isSorted = true) (hinc : increasing (L.words.toList.map (sortKey L)) = true)
    (tok : List Nat) (i : Nat) (hi : i < L.words.size) (h : C08.Rule L tok L.words[i]) : findWord L tok = some i := by
  obtain ⟨h0, hv⟩ := cmp_of_rule L tok _ h
  have srt : ∀ a b (ha : a < L.words.size) (hb : b < L.words.size), a < b →
      cmpStr (sortKey L L.words[a]) (sortKey L L.words[b]) < 0 := by
    intro a b ha hb hab
    have := List.pairwise_iff_getElem.mp (increasing_pairwise _ hinc) a b (by simpa using ha) (by simpa using hb) hab
    rwa [List.getElem_map, List.getElem_map, Array.getElem_toList, Array.getElem_toList] at this
  unfold findWord langSearch
  rw [if_pos hs]
  exact bsearch_of_signs _ _ i hi h0 (fun j hj hji => (hv _).2 (srt j i hj hi hji)) (fun j hj hij => (hv _).1 (srt i j hi hj hij))

theorem rule_of_key (L : Lang) (w k : List Nat) (hk : k ∈ keysOf L w) : C08.Rule L k w := by
  rw [C08.rule_iff]
  unfold keysOf at hk
  split at hk
  · next hp =>
    simp only [List.mem_cons, mem_prefixes4] at hk
    rcases hk with rfl | rfl | ⟨n, h4, hn, rfl⟩
    · exact .inl rfl
    · exact .inl (form_idem L w)
    · have hn : n < (form L w).length := hn
      rw [form_take]
      exact .inr ⟨hp, by rw [List.length_take]; omega, List.take_prefix _ _⟩
  · rw [List.mem_singleton.mp hk]; exact .inl rfl

theorem finds_of_distinct (L : Lang) (code : List Nat → Option Nat) (hs : L.isSorted = false) (hp : L.hasPrefix = false)
    (ha : L.hasAccents = false) (hb : ∀ w ∈ L.words.toList, BytesOK w) (hd : distinctCodes code L.words.toList 0 = true)
    (i : Nat) (hi : i < L.words.size) : findWord L L.words[i] = some i := by
  unfold findWord langSearch
  rw [if_neg (by simp [hs]), show getComparer L = cmpStr by simp [getComparer, hp, ha]]
  have hpw := (distinctCodes_sound code _ _ hd).2
  have hbo : ∀ j (hj : j < L.words.toList.length), BytesOK L.words.toList[j] := fun j hj => hb _ (List.getElem_mem hj)
  have hil : i < L.words.toList.length := by simpa using hi
  have := linearSearch_first (cmpStr L.words[i]) L.words.toList 0 i hil
    (by rw [cmpStr_eq_zero _ _ (by simpa using hbo i hil) (hbo i hil)]; simp)
    (fun j hj hz => by
      have hjl : j < L.words.toList.length := by omega
      rw [cmpStr_eq_zero _ _ (by simpa using hbo i hil) (hbo j hjl)] at hz
      exact List.pairwise_iff_getElem.mp hpw j i hjl hil hj (congrArg code (by simpa using hz.symm)))
  simpa using this

/-- **what the rule accepts for word `i` of a table that passes the order check is found at index `i`** -/
theorem findWord_of_orderCheck (L : Lang) (ho : orderCheck L = true) (tok : List Nat) (i : Nat)
    (hi : i < L.words.size) (h : C08.Rule L tok L.words[i]) : findWord L tok = some i := by
  simp only [orderCheck, Bool.and_eq_true, List.all_eq_true, wordBytesOk_iff] at ho
  obtain ⟨⟨_, hb⟩, ho⟩ := ho
  cases hs : L.isSorted
  · -- the unsorted lists are compared exactly
    simp only [hs, Bool.false_eq_true, ↓reduceIte, Bool.and_eq_true, Bool.not_eq_true'] at ho
    have : tok = L.words[i] := by simpa [C08.Rule, ho.1.1, ho.1.2] using h
    rw [this]
    exact finds_of_distinct L cjkCode hs ho.1.1 ho.1.2 (fun w hw => bytesOK_of_wordBytesOk (hb w hw)) ho.2 i hi
  · simp only [hs, ↓reduceIte] at ho
    exact findWord_of_rule L hs ho tok i hi h

theorem tableOK_of_orderCheck (L : Lang) (h : orderCheck L = true) : TableOK L := by
  have found := fun i hi k hk => findWord_of_orderCheck L h k i hi (rule_of_key L _ k hk)
  simp only [orderCheck, Bool.and_eq_true, List.all_eq_true, wordBytesOk_iff] at h
  exact ⟨Nat.eq_of_beq_eq_true h.1.1, h.1.2, fun i hi => found i hi _ (mem_keysOf_self L _), fun _ => found⟩

/-- the first four accent-stripped letters of a word as a number in base 27 (a..z = 1..26, 0 = no letter):
bytes >= 128 (combining accents in the decomposed lists) are skipped; any other byte has no code. -/
def prefixCodeAux : Nat → List Nat → Nat → Option Nat
  | 0, _, acc => some acc
  | n + 1, [], acc => prefixCodeAux n [] (acc * 27)
  | n + 1, b :: bs, acc =>
    if 128 ≤ b then prefixCodeAux (n + 1) bs acc
    else if 97 ≤ b ∧ b ≤ 122 then prefixCodeAux n bs (acc * 27 + (b - 96))
    else none
termination_by n l _ => n + l.length

def prefixCode (w : List Nat) : Option Nat := prefixCodeAux 4 w 0

/-- for the languages that allow abbreviation: no two words share their first four accent-stripped letters -/
def prefixCheck (L : Lang) : Bool := !L.hasPrefix || distinctCodes prefixCode L.words.toList 0

theorem prefix_distinct (L : Lang) (hp : L.hasPrefix = true) (h : prefixCheck L = true) (i j : Nat)
    (hi : i < L.words.size) (hj : j < L.words.size) (hij : i < j) :
    ∃ ci cj, prefixCode L.words[i] = some ci ∧ prefixCode L.words[j] = some cj ∧ ci ≠ cj := by
  simp only [prefixCheck, hp, Bool.not_true, Bool.false_or] at h
  obtain ⟨hcodes, hpw⟩ := distinctCodes_sound prefixCode _ _ h
  have hil : i < L.words.toList.length := by simpa using hi
  have hjl : j < L.words.toList.length := by simpa using hj
  obtain ⟨ci, hci, _⟩ := hcodes _ (List.getElem_mem hil)
  obtain ⟨cj, hcj, _⟩ := hcodes _ (List.getElem_mem hjl)
  have := List.pairwise_iff_getElem.mp hpw i j hil hjl hij
  rw [hci, hcj] at this
  exact ⟨ci, cj, by simpa using hci, by simpa using hcj, fun e => this (congrArg some e)⟩

/-- everything about one table that the search and the matching rule need, for one pass of the kernel over the table -/
def langChecks (L : Lang) : Bool := orderCheck L && prefixCheck L && (findWord L []).isNone

theorem langChecks_iff (L : Lang) :
    langChecks L = true ↔ orderCheck L = true ∧ prefixCheck L = true ∧ findWord L [] = none := by
  simp only [langChecks, Bool.and_eq_true, Option.isNone_iff_eq_none, and_assoc]

/-- every byte of every word and of the separator is ASCII, the separator is one space and the language does not compose -/
def asciiCheck (L : Lang) : Bool :=
  L.words.toList.all (fun w => w.all (fun b => Nat.blt b 128)) && decide (L.sep = [32]) && !L.compose

/-- `decide +kernel` for a fact about the generated table `lang`, whose word list is `words`.  The generator joins the
32 chunks of a list as `c0 ++ c1 ++ ⋯ ++ c31`, which nests to the left, so the kernel would walk the words before a chunk
again for every chunk after it; joined to the right first, the list is reached in a ninth of the steps. -/
macro "decide_table " lang:ident words:ident : tactic =>
  `(tactic| (unfold $lang $words; (repeat rw [List.append_assoc]); decide +kernel))

/-- longest word of the table, in bytes (the decomposed form the library handles internally) -/
def maxWordLen (L : Lang) : Nat := L.words.toList.foldl (fun m w => Nat.max m w.length) 0

/-- an upper bound for every phrase in the language's decomposed form: 16 longest words and 15 separators -/
def maxPhrase (L : Lang) : Nat := 16 * maxWordLen L + 15 * L.sep.length

theorem foldl_max_le_iff (ws : List (List Nat)) (m0 k : Nat) :
    ws.foldl (fun m w => Nat.max m w.length) m0 ≤ k ↔ m0 ≤ k ∧ ∀ w ∈ ws, w.length ≤ k := by
  induction ws generalizing m0 with
  | nil => simp
  | cons w ws ih => rw [List.foldl_cons, ih, List.forall_mem_cons, ← and_assoc]; exact and_congr_left' Nat.max_le

theorem word_length_le (L : Lang) (i : Nat) : (L.words.getD i []).length ≤ maxWordLen L :=
  getD_elim (·.length ≤ maxWordLen L) L.words [] i (Nat.zero_le _)
    ((foldl_max_le_iff _ 0 _).mp (Nat.le_refl (maxWordLen L))).2

/-- `maxPhrase L < size`, decided word by word.  (Evaluating `maxWordLen` itself has the kernel nest the 2048 pending
maxima of the fold, deeper than its default recursion limit.) -/
def phraseFits (size : Nat) (L : Lang) : Bool :=
  Nat.blt (15 * L.sep.length) size && L.words.toList.all fun w => Nat.blt (16 * w.length + 15 * L.sep.length) size

theorem maxPhrase_lt_of_fits {size : Nat} {L : Lang} (h : phraseFits size L = true) : maxPhrase L < size := by
  simp only [phraseFits, Bool.and_eq_true, Nat.blt_eq, List.all_eq_true] at h
  have := (foldl_max_le_iff L.words.toList 0 ((size - 15 * L.sep.length - 1) / 16)).mpr
    ⟨Nat.zero_le _, fun w hw => by have := h.2 w hw; omega⟩
  unfold maxPhrase maxWordLen
  omega

/-! ### the same check as a decision tree

`tableCheck` certifies the lookups through the decision tree of `bsearch` instead of the order of the list: more than
fifty times the comparisons, but no property of the comparator is used (`treeOk_sound`).  For a sorted list it follows
from the order check (`tableCheck_of_orderCheck`); `Tables.T3.check` states it for the Spanish list. -/

/-- the decision tree of glibc's `bsearch` over a segment of the table accepts it: at every node the keys of the pivot
compare equal to it, those of the words left of it smaller and those of the words right of it greater.  `keys w` are
the tokens that must be found at the index of word `w`. -/
def treeOk (cmp : List Nat → List Nat → Int) (keys : List Nat → List (List Nat)) : Nat → List (List Nat) → Bool
  | 0, seg => seg.isEmpty
  | fuel + 1, seg =>
    if seg.isEmpty then true else
    let m := seg.length / 2
    let pivot := seg.getD m []
    (keys pivot).all (fun k => cmp k pivot == 0)
      && (seg.take m).all (fun w => (keys w).all (fun k => decide (cmp k pivot < 0)))
      && (seg.drop (m + 1)).all (fun w => (keys w).all (fun k => decide (cmp k pivot > 0)))
      && treeOk cmp keys fuel (seg.take m) && treeOk cmp keys fuel (seg.drop (m + 1))

/-- the code `tableCheck` gives `distinctCodes` for an unsorted list, whose words are single 3-byte characters: the value
of the word in base 256 (< 2^24) -/
def wordCode (w : List Nat) : Option Nat :=
  match w with
  | [a, b, c] => some (a * 65536 + b * 256 + c)
  | _ => none

theorem wordCode_inj (a b : List Nat) (ha : ∀ x ∈ a, x < 256) (hb : ∀ x ∈ b, x < 256) (ca cb : Nat)
    (h1 : wordCode a = some ca) (h2 : wordCode b = some cb) (h : ca = cb) : a = b := by
  unfold wordCode at h1 h2
  split at h1 <;> simp at h1
  split at h2 <;> simp at h2
  rename_i a0 a1 a2 _ b0 b1 b2
  have := ha a0 (by simp); have := ha a1 (by simp); have := ha a2 (by simp)
  have := hb b0 (by simp); have := hb b1 (by simp); have := hb b2 (by simp)
  subst h1 h2
  simp only [List.cons.injEq, and_true]
  refine ⟨?_, ?_, ?_⟩ <;> omega

def linearFindsAll (L : Lang) : Bool :=
  distinctCodes wordCode L.words.toList 0

def tableCheck (L : Lang) : Bool :=
  Nat.beq L.words.size 2048 && L.words.toList.all wordBytesOk &&
    (if L.isSorted then treeOk (getComparer L) (keysOf L) (L.words.size + 1) L.words.toList
     else (!L.hasPrefix && !L.hasAccents) && linearFindsAll L)

/-- **what the decision tree certifies**: if `treeOk` accepts the words `l..u-1` of the table, glibc's loop on `[l, u)`
finds every key of each of these words at the word's index (any comparator: no order is assumed) -/
theorem treeOk_sound (cmp : List Nat → List Nat → Int) (keys : List Nat → List (List Nat)) (ws : Array (List Nat)) :
    ∀ (fuel l u : Nat), u ≤ ws.size → treeOk cmp keys fuel ((ws.toList.take u).drop l) = true →
      ∀ (i : Nat) (hi : i < ws.size), l ≤ i → i < u → ∀ key ∈ keys ws[i], ∀ f, u - l < f →
        bsearchAux (cmp key) ws f l u = some i := by
  have mem : ∀ (i : Nat) (hi : i < ws.size) (l u : Nat), l ≤ i → i < u → ws[i] ∈ (ws.toList.take u).drop l := by
    intro i hi l u hl hu
    refine List.mem_iff_getElem.mpr ⟨i - l, by simp; omega, ?_⟩
    simp [Nat.add_sub_cancel' hl]
  intro fuel
  induction fuel with
  | zero =>
    intro l u hu h i hi hl hiu
    have := mem i hi l u hl hiu
    rw [List.isEmpty_iff.mp h] at this
    cases this
  | succ fuel ih =>
    intro l u hu h i hi hl hiu key hkey f hf
    have hlen : ((ws.toList.take u).drop l).length = u - l := by simp; omega
    have hm : l + (u - l) / 2 < u := by omega
    unfold treeOk at h
    rw [if_neg (by simpa using List.ne_nil_of_mem (mem i hi l u hl hiu))] at h
    -- the two halves of the segment are segments again
    simp only [hlen, Bool.and_eq_true, beq_iff_eq, List.all_eq_true, decide_eq_true_eq, List.drop_drop,
      List.take_drop, List.take_take, Nat.min_eq_left (Nat.le_of_lt hm)] at h
    obtain ⟨⟨⟨⟨hpp, hleft⟩, hright⟩, htl⟩, htr⟩ := h
    have hpiv : ((ws.toList.take u).drop l).getD ((u - l) / 2) [] = ws[l + (u - l) / 2]'(by omega) := by
      simp [List.getD, hm, show l + (u - l) / 2 < ws.size by omega]
    rw [hpiv] at hpp hleft hright
    cases f with
    | zero => omega
    | succ f =>
      have hidx : (l + u) / 2 = l + (u - l) / 2 := by omega
      simp only [bsearchAux, show l < u by omega, ↓reduceIte, hidx, show l + (u - l) / 2 < ws.size by omega, ↓reduceDIte]
      rcases Nat.lt_trichotomy i (l + (u - l) / 2) with h1 | rfl | h1
      · rw [if_pos (hleft _ (mem i hi l _ hl h1) key hkey)]
        exact ih l _ (by omega) htl i hi hl h1 key hkey f (by omega)
      · have := hpp key hkey
        rw [if_neg (by omega), if_neg (by omega)]
      · have := hright _ (mem i hi _ u h1 hiu) key hkey
        rw [if_neg (by omega), if_pos this]
        exact ih _ u hu htr i hi h1 hiu key hkey f (by omega)

theorem tableOK_of_tableCheck (L : Lang) (h : tableCheck L = true) : TableOK L := by
  unfold tableCheck at h
  simp only [Bool.and_eq_true, List.all_eq_true, wordBytesOk_iff] at h
  obtain ⟨⟨hsize, hb⟩, hfind⟩ := h
  cases hs : L.isSorted
  · simp only [hs, Bool.false_eq_true, ↓reduceIte, Bool.and_eq_true, Bool.not_eq_true', linearFindsAll] at hfind
    exact ⟨Nat.eq_of_beq_eq_true hsize, hb,
      finds_of_distinct L wordCode hs hfind.1.1 hfind.1.2 (fun w hw => bytesOK_of_wordBytesOk (hb w hw)) hfind.2,
      fun h => by rw [hs] at h; cases h⟩
  · simp only [hs, ↓reduceIte] at hfind
    have found : ∀ i (hi : i < L.words.size), ∀ k ∈ keysOf L L.words[i], findWord L k = some i := fun i hi k hk => by
      unfold findWord langSearch bsearch
      rw [if_pos hs]
      have hseg : (L.words.toList.take L.words.size).drop 0 = L.words.toList := List.take_of_length_le (by simp)
      exact treeOk_sound _ _ L.words _ 0 _ (Nat.le_refl _) (hseg ▸ hfind) i hi (Nat.zero_le _) hi k hk _ (by omega)
    exact ⟨Nat.eq_of_beq_eq_true hsize, hb, fun i hi => found i hi _ (mem_keysOf_self L _), fun _ => found⟩

/-- the decision tree of `bsearch` accepts a list whose words compare with each other's keys as their positions say -/
theorem treeOk_of_pairwise (cmp : List Nat → List Nat → Int) (keys : List Nat → List (List Nat)) :
    ∀ (fuel : Nat) (seg : List (List Nat)), seg.length < fuel → (∀ w ∈ seg, ∀ k ∈ keys w, cmp k w = 0) →
      seg.Pairwise (fun a b => (∀ k ∈ keys a, cmp k b < 0) ∧ ∀ k ∈ keys b, 0 < cmp k a) → treeOk cmp keys fuel seg = true := by
  intro fuel
  induction fuel with
  | zero => intro seg h; omega
  | succ fuel ih =>
    intro seg hlen hz hp
    unfold treeOk
    split
    · rfl
    · rename_i hne
      have hm : seg.length / 2 < seg.length := by
        cases seg with
        | nil => simp at hne
        | cons => simp only [List.length_cons]; omega
      have hpiv : seg.getD (seg.length / 2) [] = seg[seg.length / 2] := by simp [List.getD, hm]
      -- the list around its pivot
      have hsplit := hp
      rw [← List.take_append_drop (seg.length / 2) seg, List.drop_eq_getElem_cons hm, List.pairwise_append,
        List.pairwise_cons] at hsplit
      obtain ⟨hl, ⟨hpr, hr⟩, hlr⟩ := hsplit
      simp only [hpiv, Bool.and_eq_true, List.all_eq_true, beq_iff_eq, decide_eq_true_eq]
      refine ⟨⟨⟨⟨hz _ (List.getElem_mem hm), fun w hw => (hlr w hw _ (List.mem_cons_self ..)).1⟩,
        fun w hw => (hpr w hw).2⟩, ?_⟩, ?_⟩
      · exact ih _ (by rw [List.length_take]; omega) (fun w hw => hz w (List.mem_of_mem_take hw)) hl
      · exact ih _ (by rw [List.length_drop]; omega) (fun w hw => hz w (List.mem_of_mem_drop hw)) hr

theorem tableCheck_of_orderCheck (L : Lang) (hs : L.isSorted = true) (h : orderCheck L = true) : tableCheck L = true := by
  unfold orderCheck at h
  unfold tableCheck
  simp only [hs, ↓reduceIte, Bool.and_eq_true] at h ⊢
  refine ⟨h.1, treeOk_of_pairwise _ _ _ _ (by simp) (fun w _ k hk => (cmp_of_rule L k w (rule_of_key L w k hk)).1) ?_⟩
  refine (List.pairwise_map.mp (increasing_pairwise _ h.2)).imp fun {a b} hab => ⟨fun k hk => ?_, fun k hk => ?_⟩
  · exact ((cmp_of_rule L k a (rule_of_key L a k hk)).2 b).1 hab
  · exact ((cmp_of_rule L k b (rule_of_key L b k hk)).2 a).2 hab

end Polyseed
