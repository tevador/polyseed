import Polyseed.Props.C15
/-!
# C16 — secret material is wiped from freed seeds and from temporaries

Model part: for EVERY input and on EVERY exit path each API function wipes, through the injected wipe
function and over its full size, every stack temporary that can hold secret-derived data, and a freed seed
block is wiped before it is handed to the injected free.  Which temporaries exist and that nothing else
survives in the compiled code (register spills, compiler-made copies) is outside any source-level model: that
part is the stack scan (harness/stackscan.c) — every function x exit path x compiler setting.
-/
namespace Polyseed.C16

/-- the temporaries (with sizes) a trace wipes through function `f` -/
def wiped (f : Nat) : List Event → List (Tmp × Nat)
  | [] => []
  | .zeroStack g t n :: es => if g = f then (t, n) :: wiped f es else wiped f es
  | _ :: es => wiped f es

theorem wiped_append (f : Nat) (a b : List Event) : wiped f (a ++ b) = wiped f a ++ wiped f b := by
  induction a with
  | nil => rfl
  | cons e es ih =>
    cases e with
    | zeroStack g t n => simp only [List.cons_append, wiped, ih]; split <;> rfl
    | _ => exact ih

theorem mem_wiped_append_right (f : Nat) (a b : List Event) (x : Tmp × Nat) (h : x ∈ wiped f b) : x ∈ wiped f (a ++ b) := by
  rw [wiped_append]; exact List.mem_append_right _ h

theorem cleanup_wiped (cfg : Cfg) (lib : Lib) (pre : List Event) :
    ∀ x ∈ [(Tmp.strTmp, cfg.strSize), (Tmp.words, cfg.sizeofPhrase), (Tmp.poly, cfg.sizeofPoly)],
      x ∈ wiped lib.deps.memzero (pre ++ decodeWipes cfg lib) :=
  fun x hx => mem_wiped_append_right _ _ _ x (by simpa [decodeWipes, wiped] using hx)

/-- a freed seed is wiped through the injected wipe function, over its whole size, immediately before it is
handed to the injected free; nothing else happens. -/
theorem free_wipes_first (cfg : Cfg) (env : Env) (lib : Lib) (w : World) (b : Nat) (d : Data) (h : lib.get b = some d) :
    (step cfg env lib (.free (some b)) w).events = [.zeroBlock lib.deps.memzero b cfg.sizeofData, .free lib.deps.free b] :=
  (C15.free_events cfg env lib w).2 b d h

/-- the blocks the library frees itself on its error paths are wiped first as well -/
theorem freeEvents_wipe (cfg : Cfg) (lib : Lib) (b : Nat) :
    freeEvents cfg lib b = [.zeroBlock lib.deps.memzero b cfg.sizeofData, .free lib.deps.free b] := rfl

/-- `polyseed_decode_explicit`: on every exit path the phrase copy, the token pointers and the polynomial are wiped. -/
theorem decodeExplicit_wipes (cfg : Cfg) (env : Env) (lib : Lib) (s : List Nat) (coin : Nat) (L : Lang) (w : World) :
    ∀ x ∈ [(Tmp.strTmp, cfg.strSize), (Tmp.words, cfg.sizeofPhrase), (Tmp.poly, cfg.sizeofPoly)],
      x ∈ wiped lib.deps.memzero (decodeExplicit cfg env lib s coin L w).events := by
  rw [decodeExplicit_eq]
  split
  · exact cleanup_wiped cfg lib _
  · split
    · exact cleanup_wiped cfg lib _
    · obtain ⟨mid, h⟩ := decodeFinish_events cfg lib _ coin none (decompose cfg env lib s).2 w
      rw [h]; exact cleanup_wiped cfg lib _

/-- `polyseed_decode`: the same, and additionally the detection loop's private index array whenever the loop ran. -/
theorem decode_wipes (cfg : Cfg) (env : Env) (lib : Lib) (s : List Nat) (coin : Nat) (w : World) :
    (∀ x ∈ [(Tmp.strTmp, cfg.strSize), (Tmp.words, cfg.sizeofPhrase), (Tmp.poly, cfg.sizeofPoly)],
      x ∈ wiped lib.deps.memzero (decode cfg env lib s coin w).events) ∧
    ((decode cfg env lib s coin w).out.status ≠ .numWords →
      (Tmp.idx, cfg.sizeofIdx) ∈ wiped lib.deps.memzero (decode cfg env lib s coin w).events) := by
  have hidx : ∀ pre post, (Tmp.idx, cfg.sizeofIdx) ∈ wiped lib.deps.memzero (pre ++ [detectWipe cfg lib] ++ post) := by
    intro pre post
    rw [wiped_append, wiped_append]
    apply List.mem_append_left; apply List.mem_append_right
    simp [detectWipe, wiped]
  rw [decode_eq]
  simp only
  split
  · exact ⟨cleanup_wiped cfg lib _, fun h => absurd rfl h⟩
  · split
    · exact ⟨cleanup_wiped cfg lib _, fun _ => hidx _ _⟩
    · obtain ⟨mid, hfin⟩ := decodeFinish_events cfg lib _ coin _ _ w
      rw [hfin]
      exact ⟨cleanup_wiped cfg lib _, fun _ => List.append_assoc .. ▸ hidx _ _⟩

/-- `polyseed_create`, success path: the polynomial. -/
theorem create_wipes (cfg : Cfg) (lib : Lib) (f : Nat) (w : World) (h : (create cfg lib f w).out.1 = .ok) :
    (Tmp.poly, cfg.sizeofPoly) ∈ wiped lib.deps.memzero (create cfg lib f w).events := by
  obtain ⟨b, junk, ev, w1, _, e⟩ := create_ok_inv h
  rw [e]
  exact mem_wiped_append_right _ [ev, _, _] [_] _ (by simp [wiped])

/-- `polyseed_encode`: the polynomial and the phrase buffer. -/
theorem encode_wipes (cfg : Cfg) (env : Env) (lib : Lib) (d : Data) (L : Lang) (coin : Nat)
    (hfit : (encodeTmp L d coin).length < cfg.strSize) :
    ∀ x ∈ [(Tmp.poly, cfg.sizeofPoly), (Tmp.strTmp, cfg.strSize)], x ∈ wiped lib.deps.memzero (encode cfg env lib d L coin).2 := by
  intro x hx
  rw [encode_fits hfit]
  exact mem_wiped_append_right _ _ _ x (by simpa [wiped] using hx)

/-- `polyseed_crypt`: the polynomial, the mask and the normalised password. -/
theorem crypt_wipes (cfg : Cfg) (env : Env) (lib : Lib) (b : Nat) (d : Data) (pw : List Nat) :
    ∀ x ∈ [(Tmp.poly, cfg.sizeofPoly), (Tmp.mask, 32), (Tmp.passNorm, cfg.strSize)],
      x ∈ wiped lib.deps.memzero (crypt cfg env lib b d pw).2 := by
  intro x hx
  simp only [crypt]
  exact mem_wiped_append_right _ _ _ x (by simpa [wiped] using hx)

/-- `polyseed_load`: the polynomial, on every path on which it was filled (after the format check). -/
theorem load_wipes (cfg : Cfg) (lib : Lib) (buf : List Nat) (w : World) (d : Data) (a : Nat × Data) (e : Event) (w1 : World)
    (ha : doAlloc cfg lib w = (some a, e, w1)) (hl : dataLoad buf = (.ok, some d)) :
    (Tmp.poly, cfg.sizeofPoly) ∈ wiped lib.deps.memzero (load cfg lib buf w).events := by
  rcases load_cases buf ha with ⟨hf, _⟩ | ⟨d, _, ⟨_, e⟩ | ⟨_, _, e⟩ | ⟨_, _, e⟩⟩
  · cases hf.symm.trans hl
  all_goals rw [e]; apply mem_wiped_append_right; simp [wiped]

/-- all wiping goes through the injected function: every wipe event of every call names `lib.deps.memzero`. -/
def AllWipesInjected (f : Nat) : List Event → Prop
  | [] => True
  | .zeroStack g _ _ :: es => g = f ∧ AllWipesInjected f es
  | .zeroBlock g _ _ :: es => g = f ∧ AllWipesInjected f es
  | _ :: es => AllWipesInjected f es

end Polyseed.C16
