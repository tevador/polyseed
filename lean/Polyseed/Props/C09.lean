import Polyseed.Lemmas.Decode
import Polyseed.Lemmas.Api
/-!
# C09 — language auto-detection never guesses and agrees with explicit decoding

Generic in the language list and in the tables: nothing here depends on the contents of the word lists.
-/
namespace Polyseed.C09

/-- `polyseed_phrase_decode` is a case split on the languages that recognise ALL tokens:
none → language error; exactly one → OK with that language (position in the registry) and its indices;
two or more → 'multiple languages', regardless of checksums. -/
theorem phraseDecode_cases (langs : List Lang) (toks : List (List Nat)) :
    phraseDecode langs toks =
      match matching toks langs 0 with
      | [] => ⟨.lang, [], none⟩
      | [(l, idx)] => ⟨.ok, idx, some l⟩
      | (l, idx) :: _ :: _ => ⟨.multLang, idx, some l⟩ := phraseDecode_spec langs toks

/-- `matching` lists exactly the languages that recognise all tokens -/
theorem matching_iff (toks : List (List Nat)) (langs : List Lang) (l : Nat) (idx : List Nat) :
    (l, idx) ∈ matching toks langs 0 ↔ ∃ (hl : l < langs.length), findAll langs[l] toks = some idx :=
  Polyseed.matching_iff toks langs l idx

/-- When auto-detection succeeds it reports exactly the outcome explicit decoding with that language gives
(status, seed, library state) — `lang_out` is additional, and the dependency calls are the same except for
the wipe of the detection loop's private index array. -/
theorem decode_eq_explicit (cfg : Cfg) (env : Env) (lib : Lib) (s : List Nat) (coin : Nat) (w : World) (l : Nat) (idx : List Nat)
    (hl : l < cfg.langs.length)
    (hm : matching (strSplit cfg.numWords (decompose cfg env lib s).1).1 cfg.langs 0 = [(l, idx)])
    (hn : (strSplit cfg.numWords (decompose cfg env lib s).1).2 = cfg.numWords) :
    let a := decode cfg env lib s coin w
    let x := decodeExplicit cfg env lib s coin cfg.langs[l] w
    a.out.status = x.out.status ∧ a.out.seed = x.out.seed ∧ a.lib = x.lib ∧ a.out.langOut = some l ∧
      ∃ pre post, x.events = pre ++ post ∧ a.events = pre ++ [detectWipe cfg lib] ++ post := by
  obtain ⟨_, hf⟩ := (matching_iff _ _ _ _).mp (hm ▸ List.mem_singleton_self (l, idx))
  simp only [decode_eq, decodeExplicit_eq, hn, ne_eq, not_true_eq_false, ↓reduceIte, phraseDecode_spec, hm, hf]
  rw [decodeFinish_pre (lo := some l), decodeFinish_pre (pre := (decompose cfg env lib s).2)]
  exact ⟨rfl, rfl, rfl, rfl, _, _, rfl, rfl⟩

/-- Status precedence of `polyseed_decode`: word count, then language / multiple languages, then checksum,
then memory, then unsupported features. -/
theorem decode_status (cfg : Cfg) (env : Env) (lib : Lib) (s : List Nat) (coin : Nat) (w : World) :
    let toks := (strSplit cfg.numWords (decompose cfg env lib s).1).1
    let n := (strSplit cfg.numWords (decompose cfg env lib s).1).2
    let det := phraseDecode cfg.langs toks
    let st := (decode cfg env lib s coin w).out.status
    (n ≠ cfg.numWords → st = .numWords) ∧
    (n = cfg.numWords → det.status ≠ .ok → st = det.status) ∧
    (n = cfg.numWords → det.status = .ok → polyCheck (applyCoin det.idx coin) = false → st = .checksum) ∧
    (n = cfg.numWords → det.status = .ok → polyCheck (applyCoin det.idx coin) = true →
      (∀ e w1, doAlloc cfg lib w = (none, e, w1) → st = .memory) ∧
      (∀ a e w1, doAlloc cfg lib w = (some a, e, w1) →
        st = if featuresSupported lib.reserved (polyToData (applyCoin det.idx coin)).features then .ok else .unsupported)) := by
  simp only [decode_eq]
  refine ⟨fun h => by simp [h], fun h hd => by simp [h, hd], fun h hd => ?_, fun h hd => ?_⟩
  · simp only [h, hd, ne_eq, not_true_eq_false, ↓reduceIte]; exact (decodeFinish_precedence ..).1
  · simp only [h, hd, ne_eq, not_true_eq_false, ↓reduceIte]; exact (decodeFinish_precedence ..).2

/-- the same for explicit decoding -/
theorem decodeExplicit_status (cfg : Cfg) (env : Env) (lib : Lib) (s : List Nat) (coin : Nat) (L : Lang) (w : World) :
    let toks := (strSplit cfg.numWords (decompose cfg env lib s).1).1
    let n := (strSplit cfg.numWords (decompose cfg env lib s).1).2
    let st := (decodeExplicit cfg env lib s coin L w).out.status
    (n ≠ cfg.numWords → st = .numWords) ∧
    (n = cfg.numWords → findAll L toks = none → st = .lang) ∧
    (∀ idx, n = cfg.numWords → findAll L toks = some idx → polyCheck (applyCoin idx coin) = false → st = .checksum) ∧
    (∀ idx, n = cfg.numWords → findAll L toks = some idx → polyCheck (applyCoin idx coin) = true →
      (∀ e w1, doAlloc cfg lib w = (none, e, w1) → st = .memory) ∧
      (∀ a e w1, doAlloc cfg lib w = (some a, e, w1) →
        st = if featuresSupported lib.reserved (polyToData (applyCoin idx coin)).features then .ok else .unsupported)) := by
  simp only [decodeExplicit_eq]
  refine ⟨fun h => by simp [h], fun h hf => by simp [h, hf], fun idx h hf => ?_, fun idx h hf => ?_⟩
  · simp only [h, hf, ne_eq, not_true_eq_false, ↓reduceIte]; exact (decodeFinish_precedence ..).1
  · simp only [h, hf, ne_eq, not_true_eq_false, ↓reduceIte]; exact (decodeFinish_precedence ..).2

/-! ### the tokeniser: extra, missing or empty tokens are never ignored, except a single trailing space -/

theorem takeWord_spec : ∀ s : List Nat, s = (takeWord s).1 ++ (takeWord s).2 ∧ (∀ b ∈ (takeWord s).1, b ≠ 32) ∧
    ((takeWord s).2 = [] ∨ ∃ r, (takeWord s).2 = 32 :: r) := by
  intro s
  fun_induction takeWord s with
  | case1 => simp
  | case2 cs => simp
  | case3 c cs h ih =>
    simpa only [List.cons_append, List.cons.injEq, true_and, List.mem_cons, forall_eq_or_imp, ne_eq, h,
      not_false_eq_true] using ih

/-- if `str_split` reports exactly the tokens `toks` without the too-many flag, the string IS those tokens
joined by single spaces, optionally followed by one trailing space; and no token contains a space. -/
theorem splitN_inv : ∀ (n : Nat) (s : List Nat) (toks : List (List Nat)), splitN n s = (toks, false) →
    (s = joinWords [32] toks ∨ (toks ≠ [] ∧ s = joinWords [32] toks ++ [32])) ∧ ∀ t ∈ toks, ∀ b ∈ t, b ≠ 32 := by
  intro n s
  fun_induction splitN n s with
  | case1 s =>
    intro toks h
    simp only [Prod.mk.injEq, Bool.not_eq_false', List.isEmpty_iff] at h
    obtain ⟨rfl, rfl⟩ := h
    exact ⟨.inl rfl, nofun⟩
  | case2 n =>
    intro toks h
    obtain ⟨rfl, _⟩ := Prod.mk.inj h
    exact ⟨.inl rfl, nofun⟩
  | case3 n c cs sp r ih =>
    intro toks h
    obtain ⟨rfl, hr⟩ := Prod.mk.inj h
    obtain ⟨hs, hw, hrest⟩ := takeWord_spec (c :: cs)
    obtain ⟨hjoin, hno⟩ := ih r.1 (Prod.ext rfl hr)
    refine ⟨?_, List.forall_mem_cons.mpr ⟨hw, hno⟩⟩
    rw [hs]
    rcases hrest with hnil | ⟨t, ht⟩
    · -- the word runs to the end of the string
      have : r.1 = [] := by simp only [r, sp, hnil, List.drop_nil, splitN_nil]
      left; simp only [sp, this, hnil, List.append_nil, joinWords]
    · -- a space follows the word, and `ih` describes what follows the space
      simp only [sp, ht, List.drop_succ_cons, List.drop_zero] at hjoin ⊢
      cases hws : r.1 with
      | nil => right; simpa [hws, joinWords] using hjoin
      | cons w2 ws => simpa [hws, joinWords] using hjoin

/-- Consequently: `str_split` returns 16 only for strings that consist of exactly 16 space-free tokens
separated by single spaces, with at most one trailing space (leading, doubled or extra separators give
empty or extra tokens, which are tokens like any other and are looked up). -/
theorem strSplit_16 (s : List Nat) (h : (strSplit 16 s).2 = 16) :
    let toks := (strSplit 16 s).1
    toks.length = 16 ∧ (s = joinWords [32] toks ∨ s = joinWords [32] toks ++ [32]) ∧ ∀ t ∈ toks, ∀ b ∈ t, b ≠ 32 := by
  have hlen := strSplit_length 16 s h
  simp only [strSplit] at h hlen ⊢
  have hm : (splitN 16 s).2 = false := by
    cases hm : (splitN 16 s).2
    · rfl
    · rw [hm, hlen] at h; simp at h
  obtain ⟨hjoin, hno⟩ := splitN_inv 16 s _ (Prod.ext rfl hm)
  exact ⟨hlen, hjoin.imp_right And.right, hno⟩

end Polyseed.C09
