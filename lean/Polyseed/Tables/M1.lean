import Polyseed.Lemmas.Tables
import Polyseed.Gen.L1
import Polyseed.Gen.Consts
/-! C17 for language 1: kernel-evaluated against the tables and the POLYSEED_STR_SIZE of the current tree. -/
namespace Polyseed.Tables.M1

/-- every phrase of this language (16 longest words + 15 separators) is shorter than the phrase buffer -/
theorem maxPhrase_lt : maxPhrase Gen.L1.lang < Gen.STR_SIZE :=
  maxPhrase_lt_of_fits (by decide_table Gen.L1.lang Gen.L1.wordsList)

end Polyseed.Tables.M1
