import Polyseed.Lemmas.Tables
import Polyseed.Gen.L7
import Polyseed.Pinned.L7
/-! Kernel-evaluated facts about language 7 of the registry AS THE CURRENT TREE HAS IT (Gen is regenerated on every run). -/
namespace Polyseed.Tables.T7

/-- the list is exactly the list published at the pinned release (name, flags, separator, all 2048 words) -/
theorem frozen : Gen.L7.lang = Pinned.L7.lang := rfl

/-- 2048 NUL-free, space-free, non-empty words in the order the library's search needs; no two words share their first
four accent-stripped letters (languages that allow abbreviation); an empty token is not recognised -/
theorem passes : langChecks Gen.L7.lang = true := by decide_table Gen.L7.lang Gen.L7.wordsList

/-- an all-ASCII, non-composing language with a plain space as separator -/
theorem asciiOk : asciiCheck Gen.L7.lang = true := by decide_table Gen.L7.lang Gen.L7.wordsList

end Polyseed.Tables.T7
