import Polyseed.Gen.Consts
import Polyseed.Model.Step
/-!
# The published constants of the CURRENT tree are the ones the model uses

`Gen/Consts.lean` is regenerated on every run by the translator: the C preprocessor and compiler of the current tree
evaluate the macros of `birthday.h`, `features.h`, `gf.h`, `storage.h`, `polyseed.h` and the multiplication-by-x
function for all 2048 field elements.  The model uses literals on purpose (the published format); these theorems are
the obligations that tie the two - a changed constant in the tree breaks one of them before any test is run.
-/
namespace Polyseed.Tables.Consts

/-- `polyseed_status` numbering -/
theorem statuses :
    [Gen.ST_OK, Gen.ST_NUM_WORDS, Gen.ST_LANG, Gen.ST_CHECKSUM, Gen.ST_UNSUPPORTED, Gen.ST_FORMAT, Gen.ST_MEMORY, Gen.ST_MULT_LANG] =
    [Status.ok, .numWords, .lang, .checksum, .unsupported, .format, .memory, .multLang].map Status.toNat := by decide

/-- `birthday.h` -/
theorem birthday :
    Gen.EPOCH = EPOCH ∧ Gen.TIME_STEP = TIME_STEP ∧ Gen.DATE_BITS = DATE_BITS ∧ Gen.DATE_MASK = DATE_MASK := by decide

/-- `features.h` -/
theorem features :
    Gen.FEATURE_BITS = FEATURE_BITS ∧ Gen.FEATURE_MASK = FEATURE_MASK ∧ Gen.USER_FEATURES = USER_FEATURES ∧
    Gen.USER_FEATURES_MASK = USER_FEATURES_MASK ∧ Gen.ENCRYPTED_MASK = ENCRYPTED_MASK := by decide

/-- `gf.h`: an 11-bit field, one check digit -/
theorem field : Gen.GF_BITS = 11 ∧ Gen.GF_SIZE = 2048 ∧ Gen.GF_MASK = GF_MASK ∧ Gen.POLY_NUM_CHECK_DIGITS = 1 := by decide

/-- `gf_elem_mul2` of the current tree, on all 2048 elements, is the model's multiplication by x (the list is empty when
the translator cannot reach the function under its name: then only the correspondence suites tie it) -/
theorem mul2_table : Gen.MUL2 = [] ∨ Gen.MUL2 = (List.range 2048).map mul2 := by
  -- the generated chunks are joined to the left, which costs the kernel a pass over the list per chunk: rejoin them to the right
  simp only [Gen.MUL2, List.append_assoc]
  decide +kernel

/-- `storage.h`, `polyseed.h` -/
theorem sizes :
    Gen.SECRET_BITS = 150 ∧ Gen.SECRET_SIZE = SECRET_SIZE ∧ Gen.SECRET_BUFFER_SIZE = SECRET_BUFFER_SIZE ∧ Gen.CLEAR_MASK = CLEAR_MASK ∧
    Gen.STORAGE_SIZE = 32 ∧ Gen.NUM_WORDS = 16 ∧ Gen.LANG_SIZE = 2048 ∧ Gen.NUM_LANGS = 10 := by decide

/-- the published coin values -/
theorem coins : Gen.COIN_MONERO = 0 ∧ Gen.COIN_AEON = 1 ∧ Gen.COIN_WOWNERO = 2 := by decide

end Polyseed.Tables.Consts
