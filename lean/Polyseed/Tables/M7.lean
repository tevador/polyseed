import Polyseed.Lemmas.Tables
import Polyseed.Gen.L7
import Polyseed.Gen.Consts
/-! C17 for language 7: kernel-evaluated against the tables and the POLYSEED_STR_SIZE of the current tree. -/
namespace Polyseed.Tables.M7

/-- every phrase of this language (16 longest words + 15 separators) is shorter than the phrase buffer -/
theorem maxPhrase_lt : maxPhrase Gen.L7.lang < Gen.STR_SIZE :=
  maxPhrase_lt_of_fits (by decide_table Gen.L7.lang Gen.L7.wordsList)

end Polyseed.Tables.M7
