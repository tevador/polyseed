import Polyseed.Model.Gf
import Polyseed.Model.Spec
import Polyseed.Lemmas.Basic
/-!
# GF(2048) algebra behind `gf.h`

`mul2` (threshold + 8-entry table, as in C) is multiplication by `x` modulo `x^11 + x^2 + 1` (`mul2_eq_bv`); it is
XOR-linear, injective and has no short cycles.  Horner evaluation changes by `x^i * (old + new)` when coefficient `i` is
replaced (`polyEval_set`), whence `polyCheck_set_set`: two substitutions adding the same difference at most 15 places
apart invalidate a valid polynomial.  `polyEval_eq_evalX`, `checkWord_eq`: the evaluation is the specification's.
-/
namespace Polyseed

/-- multiplication by `x` in GF(2)[x]/(x^11+x^2+1) on 11-bit vectors (the specification's definition) -/
abbrev mul2bv (x : BitVec 11) : BitVec 11 := Spec.mulX x

theorem bv_xor_xor_cancel {n} (x y c : BitVec n) : x ^^^ c ^^^ (y ^^^ c) = x ^^^ y := by
  rw [BitVec.xor_assoc, BitVec.xor_comm y c, ← BitVec.xor_assoc c c y, BitVec.xor_self, BitVec.zero_xor]

theorem mul2bv_xor (a b : BitVec 11) : mul2bv (a ^^^ b) = mul2bv a ^^^ mul2bv b := by
  unfold mul2bv Spec.mulX
  rw [BitVec.msb_xor, BitVec.shiftLeft_xor_distrib]
  cases a.msb <;> cases b.msb <;> simp
  · rw [BitVec.xor_assoc]
  · rw [BitVec.xor_assoc, BitVec.xor_comm (b <<< 1), ← BitVec.xor_assoc]
  · rw [bv_xor_xor_cancel]

/-- the C function agrees with the field operation on all 2048 elements (kernel evaluation). -/
theorem mul2_eq_bv_all : (List.range 2048).all (fun x => mul2 x == (mul2bv (BitVec.ofNat 11 x)).toNat) = true := by
  decide +kernel

theorem mul2_eq_bv (x : Nat) (h : x < 2048) : mul2 x = (mul2bv (BitVec.ofNat 11 x)).toNat := by
  have := all_range mul2_eq_bv_all h
  simpa using this

theorem mul2_lt (x : Nat) (h : x < 2048) : mul2 x < 2048 := by
  rw [mul2_eq_bv x h]; exact (mul2bv _).isLt

theorem mul2_zero : mul2 0 = 0 := by decide

theorem mul2_xor (x y : Nat) (hx : x < 2048) (hy : y < 2048) : mul2 (x ^^^ y) = mul2 x ^^^ mul2 y := by
  have hxy : x ^^^ y < 2048 := Nat.xor_lt_two_pow (n := 11) hx hy
  rw [mul2_eq_bv _ hxy, mul2_eq_bv _ hx, mul2_eq_bv _ hy, ← BitVec.toNat_xor, ← mul2bv_xor]
  congr 2
  apply BitVec.eq_of_toNat_eq
  simp [BitVec.toNat_xor, Nat.mod_eq_of_lt hx, Nat.mod_eq_of_lt hy]

/-- division by `x`: the inverse of `mul2bv` -/
def div2bv (y : BitVec 11) : BitVec 11 :=
  if y.getLsbD 0 then ((y ^^^ 5#11) >>> 1) ||| 1024#11 else y >>> 1

theorem div2_mul2_all : (List.range 2048).all (fun x => (div2bv (mul2bv (BitVec.ofNat 11 x))).toNat == x) = true := by
  decide +kernel

theorem mul2_inj (x y : Nat) (hx : x < 2048) (hy : y < 2048) (h : mul2 x = mul2 y) : x = y := by
  rw [mul2_eq_bv x hx, mul2_eq_bv y hy] at h
  have hb : mul2bv (BitVec.ofNat 11 x) = mul2bv (BitVec.ofNat 11 y) := BitVec.eq_of_toNat_eq h
  have e1 := all_range div2_mul2_all hx
  have e2 := all_range div2_mul2_all hy
  simp only [beq_iff_eq] at e1 e2
  rw [← e1, ← e2, hb]

theorem mul2_eq_zero (x : Nat) (hx : x < 2048) (h : mul2 x = 0) : x = 0 :=
  mul2_inj x 0 hx (by omega) (by rw [h, mul2_zero])

def mul2Iter : Nat → Nat → Nat
  | 0, x => x
  | k + 1, x => mul2 (mul2Iter k x)

theorem mul2Iter_lt (k x : Nat) (hx : x < 2048) : mul2Iter k x < 2048 := by
  induction k with
  | zero => exact hx
  | succ k ih => exact mul2_lt _ ih

theorem mul2Iter_zero (k : Nat) : mul2Iter k 0 = 0 := by
  induction k with
  | zero => rfl
  | succ k ih => simp [mul2Iter, ih, mul2_zero]

theorem mul2Iter_xor (k x y : Nat) (hx : x < 2048) (hy : y < 2048) :
    mul2Iter k (x ^^^ y) = mul2Iter k x ^^^ mul2Iter k y := by
  induction k with
  | zero => rfl
  | succ k ih => simp only [mul2Iter, ih]; exact mul2_xor _ _ (mul2Iter_lt k x hx) (mul2Iter_lt k y hy)

theorem mul2Iter_succ' (k x : Nat) : mul2Iter (k + 1) x = mul2Iter k (mul2 x) := by
  induction k with
  | zero => rfl
  | succ k ih => simp only [mul2Iter] at *; rw [ih]

theorem mul2Iter_inj (k x y : Nat) (hx : x < 2048) (hy : y < 2048) (h : mul2Iter k x = mul2Iter k y) : x = y := by
  induction k with
  | zero => exact h
  | succ k ih => exact ih (mul2_inj _ _ (mul2Iter_lt k x hx) (mul2Iter_lt k y hy) h)

theorem mul2Iter_eq_zero (k x : Nat) (hx : x < 2048) (h : mul2Iter k x = 0) : x = 0 :=
  mul2Iter_inj k x 0 hx (by omega) (h.trans (mul2Iter_zero k).symm)

theorem mul2Iter_add (j k x : Nat) : mul2Iter (j + k) x = mul2Iter j (mul2Iter k x) := by
  induction j with
  | zero => simp [mul2Iter]
  | succ j ih => rw [Nat.succ_add]; simp only [mul2Iter, ih]

/-- no non-zero element returns to itself in 1..15 multiplications by `x`
(the order of `x` is 2047 = 23 * 89): 2047 x 15 kernel evaluations. -/
theorem no_short_cycle_all :
    (List.range 2048).all (fun d => d == 0 || (List.range 15).all (fun k => mul2Iter (k + 1) d != d)) = true := by
  decide +kernel

theorem mul2_no_short_cycle (d : Nat) (hd : d < 2048) (h0 : d ≠ 0) (k : Nat) (hk1 : 1 ≤ k) (hk : k ≤ 15) :
    mul2Iter k d ≠ d := by
  have := all_range no_short_cycle_all hd
  simp only [Bool.or_eq_true, beq_iff_eq, h0, false_or] at this
  have := all_range this (x := k - 1) (by omega)
  simp only [bne_iff_ne, ne_eq] at this
  rwa [Nat.sub_add_cancel hk1] at this

/-- all coefficients are field elements -/
def Coeffs (p : List Nat) : Prop := ∀ c ∈ p, c < 2048

theorem polyEval_lt (p : List Nat) (h : Coeffs p) : polyEval p < 2048 := by
  induction p with
  | nil => simp [polyEval]
  | cons c cs ih =>
    obtain ⟨hc, hcs⟩ := List.forall_mem_cons.mp h
    exact Nat.xor_lt_two_pow (n := 11) (mul2_lt _ (ih hcs)) hc

/-- replacing coefficient `i` changes the evaluation by `x^i * (old + new)`. -/
theorem polyEval_set (p : List Nat) (h : Coeffs p) (i : Nat) (hi : i < p.length) (v : Nat) (hv : v < 2048) :
    polyEval (p.set i v) = polyEval p ^^^ mul2Iter i (v ^^^ p[i]) := by
  induction p generalizing i with
  | nil => simp at hi
  | cons c cs ih =>
    obtain ⟨hc, hcs⟩ := List.forall_mem_cons.mp h
    cases i with
    | zero =>
      simp only [List.set_cons_zero, polyEval, mul2Iter, List.getElem_cons_zero]
      rw [Nat.xor_comm v c, ← Nat.xor_assoc, xor_xor_self]
    | succ i =>
      have hi' : i < cs.length := by simpa using hi
      simp only [List.set_cons_succ, polyEval, List.getElem_cons_succ]
      rw [ih hcs i hi']
      have hd : v ^^^ cs[i] < 2048 := Nat.xor_lt_two_pow (n := 11) hv (hcs _ (List.getElem_mem hi'))
      rw [mul2_xor _ _ (polyEval_lt cs hcs) (mul2Iter_lt i _ hd)]
      simp only [mul2Iter]
      rw [Nat.xor_assoc, Nat.xor_assoc, Nat.xor_comm (mul2 (mul2Iter i (v ^^^ cs[i]))) c]

theorem Coeffs.getD {p : List Nat} (hp : Coeffs p) (k : Nat) : p.getD k 0 < 2048 := getD_lt_of_forall hp (by decide) k

theorem Coeffs.set {p : List Nat} (hp : Coeffs p) (i : Nat) {v : Nat} (hv : v < 2048) : Coeffs (p.set i v) := by
  intro c hc
  rcases List.mem_or_eq_of_mem_set hc with h | h
  · exact hp c h
  · exact h ▸ hv

/-- two substitutions that add the same non-zero difference, at most 15 places apart, invalidate a valid polynomial:
`x^i + x^j` would have to vanish -/
theorem polyCheck_set_set (p : List Nat) (hp : Coeffs p) (hlen : p.length ≤ 16) (hc : polyCheck p = true)
    (i j : Nat) (hij : i < j) (hj : j < p.length) (a b : Nat) (ha : a < 2048) (hb : b < 2048)
    (hab : a ^^^ p[i] = b ^^^ p[j]) (hne : a ≠ p[i]) : polyCheck ((p.set i a).set j b) = false := by
  have hi : i < p.length := by omega
  have h0 : polyEval p = 0 := by simpa [polyCheck] using hc
  have hd : b ^^^ p[j] < 2048 := Nat.xor_lt_two_pow (n := 11) hb (hp _ (List.getElem_mem hj))
  have hnz : b ^^^ p[j] ≠ 0 := fun h => hne (eq_of_xor_eq_zero (hab ▸ h))
  unfold polyCheck
  rw [polyEval_set _ (hp.set i ha) j (by simpa using hj) b hb, polyEval_set p hp i hi a ha, h0, Nat.zero_xor,
    List.getElem_set_ne (by omega), hab]
  generalize b ^^^ p[j] = δ at hd hnz
  apply Bool.eq_false_iff.mpr
  intro h
  have hz := eq_of_xor_eq_zero (by simpa using h : mul2Iter i δ ^^^ mul2Iter j δ = 0)
  rw [show j = i + (j - i) by omega, mul2Iter_add] at hz
  exact mul2_no_short_cycle _ hd hnz (j - i) (by omega) (by omega) (mul2Iter_inj i _ _ hd (mul2Iter_lt _ _ hd) hz).symm

theorem polyCheck_cons_iff (c : Nat) (cs : List Nat) : polyCheck (c :: cs) = true ↔ c = polyEval (0 :: cs) := by
  simp only [polyCheck, polyEval, Nat.xor_zero, beq_iff_eq]
  constructor
  · intro h; exact (eq_of_xor_eq_zero h).symm
  · intro h; rw [h, Nat.xor_self]

/-- Horner evaluation of the C code = evaluation over the field of the specification. -/
theorem polyEval_eq_evalX (p : List Nat) (hp : Coeffs p) : polyEval p = (Spec.evalX (p.map (BitVec.ofNat 11))).toNat := by
  induction p with
  | nil => rfl
  | cons c cs ih =>
    obtain ⟨hc, hcs⟩ := List.forall_mem_cons.mp hp
    simp only [polyEval, List.map_cons, Spec.evalX, BitVec.toNat_xor]
    rw [mul2_eq_bv _ (polyEval_lt cs hcs), ih hcs]
    congr 2
    · congr 1
      apply BitVec.eq_of_toNat_eq
      simp
    · simp [Nat.mod_eq_of_lt hc]

/-- the specification's check word is the C code's evaluation with `coeff[0] = 0` -/
theorem checkWord_eq (cs : List Nat) (h : Coeffs cs) : Spec.checkWord cs = polyEval (0 :: cs) := by
  rw [polyEval_eq_evalX _ (List.forall_mem_cons.mpr ⟨Nat.zero_lt_succ _, h⟩)]; rfl

end Polyseed
