import Polyseed.Lemmas.Exit
/-! # C18 / C16 — every dependency call of every API call goes through the injected table (all inputs, all oracles) -/
namespace Polyseed.C18

/-- the event was served by the function the library was given for that purpose -/
def Served (d : Deps) : Event → Prop
  | .alloc f _ _ => f = d.alloc
  | .free f _ => f = d.free
  | .zeroBlock f _ _ => f = d.memzero
  | .zeroStack f _ _ => f = d.memzero
  | .rand f _ _ => f = d.randbytes
  | .time f _ => f = d.time
  | .kdf f _ _ _ _ _ => f = d.pbkdf2
  | .nfc f _ _ => f = d.nfc
  | .nfkd f _ _ => f = d.nfkd

theorem served_of_plain {d : Deps} {e : Event} (h : Plain d e) : Served d e := by
  cases e with
  | alloc f n r => cases r with | none => exact h | some b => exact h.elim
  | free f b => exact h.elim
  | zeroBlock f b n => exact h.elim
  | _ => exact h

theorem served_free (cfg : Cfg) (lib : Lib) (b : Nat) : ∀ e ∈ freeEvents cfg lib b, Served lib.deps e := by
  simp [freeEvents, Served]

/-- **Memory, wiping, key derivation, normalisation, randomness and time are obtained only through the functions
given at injection**: every dependency call of every API call, for every input, names the entry of the injected
table that is responsible for it. -/
theorem step_served (cfg : Cfg) (env : Env) (lib : Lib) (op : Op) (w : World) :
    ∀ e ∈ (step cfg env lib op w).events, Served lib.deps e := by
  have h := step_exit cfg env lib op w
  generalize step cfg env lib op w = r at h ⊢
  have hp : ∀ {evs : List Event}, (∀ e ∈ evs, Plain lib.deps e) → ∀ e ∈ evs, Served lib.deps e := fun h e he => served_of_plain (h e he)
  cases h with
  | inject d => simp
  | enable m => simp
  | quiet hev => exact hp hev
  | nomem ha hev => exact hp hev
  | refused ha hpre hpost =>
    simp only [List.forall_mem_append, List.forall_mem_cons]
    exact ⟨hp hpre, rfl, served_free cfg lib _, hp hpost⟩
  | made ha hpre hpost =>
    simp only [List.forall_mem_append, List.forall_mem_cons]
    exact ⟨hp hpre, rfl, hp hpost⟩
  | freed hg => exact served_free cfg lib _
  | rekeyed m hg hm hev => exact hp hev

end Polyseed.C18
