import Polyseed.Model.Lang
/-!
# `compare_str` orders strings, and `compare_prefix` is `compare_str` on a truncation

Nothing here restricts the byte values: a strict inequality of ranks `sc` already tells two bytes apart.
-/
namespace Polyseed

theorem sgnCmp_neg (a b : Nat) : sgnCmp a b < 0 ↔ sc a < sc b := by unfold sgnCmp; omega

theorem sgnCmp_self (a : Nat) : sgnCmp a a = 0 := by unfold sgnCmp; omega

theorem sgnCmp_swap (a b : Nat) : sgnCmp b a = - sgnCmp a b := by unfold sgnCmp; omega

theorem cmpStr_self (a : List Nat) : cmpStr a a = 0 := by
  induction a with
  | nil => exact sgnCmp_self 0
  | cons x as ih => simpa [cmpStr] using ih

theorem cmpStr_swap (a b : List Nat) : cmpStr b a = - cmpStr a b := by
  induction a generalizing b with
  | nil => cases b <;> exact sgnCmp_swap ..
  | cons x as ih =>
    obtain _ | ⟨y, bs⟩ := b
    · exact sgnCmp_swap ..
    · by_cases h : x = y
      · simp [cmpStr, h, ih]
      · simp [cmpStr, h, Ne.symm h, sgnCmp_swap x y]

theorem cmpStr_cons_neg (x y : Nat) (as bs : List Nat) :
    cmpStr (x :: as) (y :: bs) < 0 ↔ sc x < sc y ∨ x = y ∧ cmpStr as bs < 0 := by
  by_cases h : x = y
  · simp [cmpStr, h]
  · simp [cmpStr, h, sgnCmp_neg]

/-- the first bytes decide, or they agree and the rest decides; an ended string shows byte 0 and has no rest -/
theorem cmpStr_neg (a b : List Nat) : cmpStr a b < 0 ↔
    sc (hd a) < sc (hd b) ∨ a ≠ [] ∧ b ≠ [] ∧ hd a = hd b ∧ cmpStr a.tail b.tail < 0 := by
  rcases a with _ | ⟨x, as⟩ <;> rcases b with _ | ⟨y, bs⟩
  case cons.cons => simp [cmpStr_cons_neg, hd]
  all_goals simp [cmpStr, sgnCmp_neg, hd]

theorem cmpStr_trans {a b c : List Nat} (h1 : cmpStr a b < 0) (h2 : cmpStr b c < 0) : cmpStr a c < 0 := by
  induction a generalizing b c with
  | nil =>
    rw [cmpStr, sgnCmp_neg] at h1 ⊢
    rcases (cmpStr_neg b c).mp h2 with h2 | ⟨_, _, e, _⟩
    · omega
    · exact e ▸ h1
  | cons x as ih =>
    rw [cmpStr_neg] at h1 h2 ⊢
    rcases h1 with h1 | ⟨ha, _, e1, h1⟩ <;> rcases h2 with h2 | ⟨_, hc, e2, h2⟩
    · exact .inl (by omega)
    · exact .inl (e2 ▸ h1)
    · exact .inl (e1 ▸ h2)
    · exact .inr ⟨ha, hc, e1.trans e2, ih h1 h2⟩

/-- a strict inequality between truncations is decided before the cut, so it survives any longer cut -/
theorem cmpStr_take {a b : List Nat} {n : Nat} (h : cmpStr (a.take n) (b.take n) < 0) {m : Nat} (hm : n ≤ m) :
    cmpStr (a.take m) (b.take m) < 0 := by
  induction n generalizing a b m with
  | zero => simp [cmpStr, hd, sgnCmp_self] at h
  | succ n ih =>
    obtain _ | m := m
    · omega
    rcases a with _ | ⟨x, as⟩ <;> rcases b with _ | ⟨y, bs⟩
    case cons.cons =>
      simp only [List.take_succ_cons, cmpStr_cons_neg] at h ⊢
      exact h.imp id (.imp id (ih · (by omega)))
    all_goals simpa [cmpStr, hd] using h

theorem cmpStr_of_take {a b : List Nat} {n : Nat} (h : cmpStr (a.take n) (b.take n) < 0) : cmpStr a b < 0 := by
  have := cmpStr_take (m := max n (max a.length b.length)) h (by omega)
  rwa [List.take_of_length_le (by omega), List.take_of_length_le (by omega)] at this

/-- `compare_prefix(key, elm, n)` is `compare_str` of the key against `elm` cut to the key's length, once the key has `n` letters (`i` is the loop counter: letters already consumed plus one) -/
theorem cmpPrefix_eq_cmpStr (n : Nat) (key elm : List Nat) (i : Nat) :
    cmpPrefix n i key elm = cmpStr key (if key ≠ [] ∧ n ≤ i + key.length - 1 then elm.take key.length else elm) := by
  induction key generalizing elm i with
  | nil => simp [cmpPrefix, cmpStr]
  | cons k ks ih =>
    simp only [cmpPrefix]
    split
    · next h =>
      -- the early exit, at the key's last letter: only one letter of `elm` is looked at
      obtain ⟨hn, rfl⟩ := h
      obtain _ | ⟨x, es⟩ := elm
      · simp [cmpStr, hd]
      · by_cases e : k = x <;> simp [cmpStr, hd, hn, e, sgnCmp_self]
    · next h =>
      -- the rest of the key cuts `elm` at the same place; if `ks = []` then `¬ n ≤ i`, and neither side cuts
      have hc : (ks ≠ [] ∧ n ≤ i + 1 + ks.length - 1) ↔ n ≤ i + ks.length := by
        cases ks <;> simp at h ⊢ <;> omega
      obtain _ | ⟨x, es⟩ := elm
      · simp [cmpStr]
      · simp only [ih, hc]
        by_cases hn : n ≤ i + ks.length <;> simp [cmpStr, hn, Nat.add_sub_assoc]

end Polyseed
