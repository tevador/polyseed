import Polyseed.Props.C08
import Polyseed.Props.C02Phrase
/-!
# C08 lifted to phrases: a phrase altered only in the permitted ways decodes to the same seed

`find_iff_rule` speaks about one token.  Here: ANY 16 tokens that the rule accepts, position by position, for the 16
words of a phrase (abbreviated to four or more letters, accents dropped or typed, in any mixture) are decoded by
`polyseed_decode_explicit` to exactly the outcome of the unaltered phrase - same status, same seed, same library state.
-/
namespace Polyseed.C08

/-- token `tok` is accepted by the rule for the word with index `i` of `L` -/
def Accepts (L : Lang) (tok : List Nat) (i : Nat) : Prop :=
  BytesOK tok ∧ ∃ hi : i < L.words.size, Rule L tok L.words[i]

/-- tokens and word indices, position by position -/
inductive AllAccept (L : Lang) : List (List Nat) → List Nat → Prop
  | nil : AllAccept L [] []
  | cons {t : List Nat} {i : Nat} {ts : List (List Nat)} {is : List Nat} :
      Accepts L t i → AllAccept L ts is → AllAccept L (t :: ts) (i :: is)

theorem AllAccept.length_eq {L : Lang} {toks : List (List Nat)} {idx : List Nat} (h : AllAccept L toks idx) :
    toks.length = idx.length := by
  induction h with
  | nil => rfl
  | cons _ _ ih => simp [ih]

/-- the lookup loop over a whole phrase, in any table that passes the order check -/
theorem findAll_of_orderCheck (L : Lang) (ho : orderCheck L = true) (toks : List (List Nat)) (idx : List Nat)
    (h : AllAccept L toks idx) : findAll L toks = some idx := by
  induction h with
  | nil => rfl
  | cons hd _ ih => simp only [findAll, findWord_of_orderCheck L ho _ _ hd.2.1 hd.2.2, ih]

/-- the lookup loop over a whole phrase: tokens accepted by the rule yield exactly the indices they stand for. -/
theorem findAll_of_accepts (L : Lang) (hL : L ∈ Gen.registry) (toks : List (List Nat)) (idx : List Nat)
    (h : AllAccept L toks idx) : findAll L toks = some idx :=
  findAll_of_orderCheck L (C07.passes L hL).1 toks idx h

/-- explicit decoding of ANY string that normalises to 16 space-free tokens accepted by the rule for the words
`idx` is `decodeFinish` on those indices. -/
theorem decodeExplicit_of_tokens (cfg : Cfg) (env : Env) (lib : Lib) (L : Lang) (hL : L ∈ Gen.registry)
    (toks : List (List Nat)) (idx : List Nat) (hacc : AllAccept L toks idx)
    (hlen : toks.length = 16) (htok : ∀ t ∈ toks, t ≠ [] ∧ ∀ b ∈ t, b ≠ 32)
    (s : List Nat) (coin : Nat) (w : World) (hnw : cfg.numWords = 16)
    (hs : (decompose cfg env lib s).1 = joinWords [32] toks) :
    decodeExplicit cfg env lib s coin L w = decodeFinish cfg lib idx coin none (decompose cfg env lib s).2 w :=
  decodeExplicit_tokens cfg env lib L toks idx (by rw [hlen, hnw]) htok (findAll_of_accepts L hL toks idx hacc) s coin w hs

/-- **A valid phrase altered only in the permitted ways decodes to the same seed**: `s0` normalises to the 16 full
words with indices `idx`, `s` to 16 tokens each accepted by the rule for the corresponding word (abbreviations of at
least four letters, accents present or not - whatever `Rule` admits in that language).  Then explicit decoding of `s`
gives exactly the status, seed and library state that decoding `s0` gives, for every coin and allocation outcome. -/
theorem variant_decodes_same (cfg : Cfg) (env : Env) (lib : Lib) (L : Lang) (hL : L ∈ Gen.registry)
    (toks : List (List Nat)) (idx : List Nat) (hacc : AllAccept L toks idx)
    (hlen : idx.length = 16) (hidx : ∀ i ∈ idx, i < 2048) (htok : ∀ t ∈ toks, t ≠ [] ∧ ∀ b ∈ t, b ≠ 32)
    (s s0 : List Nat) (coin : Nat) (w : World) (hnw : cfg.numWords = 16)
    (hs : (decompose cfg env lib s).1 = joinWords [32] toks)
    (hs0 : (decompose cfg env lib s0).1 = joinWords [32] (idx.map (fun i => L.words.getD i []))) :
    (decodeExplicit cfg env lib s coin L w).out = (decodeExplicit cfg env lib s0 coin L w).out ∧
    (decodeExplicit cfg env lib s coin L w).lib = (decodeExplicit cfg env lib s0 coin L w).lib := by
  have hl : toks.length = 16 := by rw [hacc.length_eq, hlen]
  rw [decodeExplicit_of_tokens cfg env lib L hL toks idx hacc hl htok s coin w hnw hs,
    C02.decodeExplicit_of_words cfg env lib L (C07.tables_ok L hL) idx hlen hidx s0 coin w hnw hs0]
  rw [decodeFinish_pre (pre := (decompose cfg env lib s).2), decodeFinish_pre (pre := (decompose cfg env lib s0).2)]
  exact ⟨rfl, rfl⟩

/-- the full word itself is accepted (so `variant_decodes_same` is not vacuous: take `toks` = the words) -/
theorem accepts_self (L : Lang) (hL : L ∈ Gen.registry) (i : Nat) (hi : i < L.words.size) : Accepts L L.words[i] i :=
  ⟨(C07.tables_ok L hL).bytesOK i hi, hi, (rule_iff ..).mpr (.inl rfl)⟩

/-- the premises are met by real abbreviations: "aban" for English word 0 ("abandon") -/
example : Accepts Gen.L0.lang [97, 98, 97, 110] 0 := by
  refine ⟨fun b hb => by simp at hb; omega, by decide_table Gen.L0.lang Gen.L0.wordsList, ?_⟩
  unfold Rule
  decide +kernel

/-- and not by a three-letter prefix -/
example : ¬ Rule Gen.L0.lang [97, 98, 97] [97, 98, 97, 110, 100, 111, 110] := by
  unfold Rule
  decide +kernel

end Polyseed.C08
