import Polyseed.Lemmas.Api
import Polyseed.Props.C18
import Polyseed.Lemmas.Storage
import Polyseed.Lemmas.Basic
/-!
# C11 — the wallet birthday is never later than creation and accurate to one month

Theorems about `birthdayEncode` / `birthdayDecode` (the model of `birthday.h`,
tied to the code by suite S-bday) for EVERY 64-bit clock value, and about the
API functions that carry the birthday.
-/
namespace Polyseed.C11
/-- end of the 1024-month range: 3 March 2107 20:38:24 UTC -/
def RANGE_END : Nat := EPOCH + 1024 * TIME_STEP

example : RANGE_END = 4328627904 := by decide

theorem encode_lt (t : Nat) : birthdayEncode t < 1024 := by
  unfold birthdayEncode; split
  · omega
  · rw [show DATE_MASK = 1023 from rfl, and_1023]; omega

theorem birthday_form (b : Nat) (hb : b < 1024) :
    birthdayDecode b = EPOCH + b * TIME_STEP ∧ EPOCH + b * TIME_STEP < 2 ^ 64 := by
  unfold birthdayDecode EPOCH TIME_STEP
  omega

theorem encode_eq (t : Nat) (h1 : EPOCH ≤ t) (h2 : t ≠ 2 ^ 64 - 1) :
    birthdayEncode t = ((t - EPOCH) / TIME_STEP) % 1024 := by
  unfold birthdayEncode
  have ht : ¬ (t = 2 ^ 64 - 1 ∨ t < EPOCH) := by omega
  rw [if_neg ht, show DATE_MASK = 1023 from rfl, and_1023]

theorem birthday_in_range (t : Nat) (h1 : EPOCH ≤ t) (h2 : t < RANGE_END) :
    birthdayDecode (birthdayEncode t) ≤ t ∧ t < birthdayDecode (birthdayEncode t) + TIME_STEP := by
  rw [(birthday_form _ (encode_lt t)).1, encode_eq t h1 (by unfold RANGE_END EPOCH TIME_STEP at h2; omega)]
  unfold RANGE_END EPOCH TIME_STEP at *
  omega

theorem birthday_clamped (t : Nat) (h : t < EPOCH ∨ t = 2 ^ 64 - 1) :
    birthdayDecode (birthdayEncode t) = EPOCH := by
  rw [show birthdayEncode t = 0 from if_pos h.symm]
  rfl

theorem birthday_never_future (t : Nat) (h1 : EPOCH ≤ t) (h2 : t < 2 ^ 64) :
    birthdayDecode (birthdayEncode t) ≤ t := by
  by_cases hmax : t = 2 ^ 64 - 1
  · rw [birthday_clamped t (Or.inr hmax)]; exact h1
  · rw [(birthday_form _ (encode_lt t)).1, encode_eq t h1 hmax]
    unfold EPOCH TIME_STEP at *
    omega

theorem decode_encode_form (t : Nat) :
    ∃ k, k < 1024 ∧ birthdayDecode (birthdayEncode t) = EPOCH + k * TIME_STEP :=
  ⟨birthdayEncode t, encode_lt t, (birthday_form _ (encode_lt t)).1⟩

/-- `polyseed_create` stores exactly `birthday_encode(clock)` where `clock` is the injected clock's answer. -/
theorem create_birthday (cfg : Cfg) (lib : Lib) (f : Nat) (w : World) (b : Nat) (d : Data)
    (h : (create cfg lib f w).out = (.ok, some b)) (hd : (create cfg lib f w).lib.get b = some d) :
    ∃ a e w1, doAlloc cfg lib w = (some a, e, w1) ∧ d.birthday = birthdayEncode (w1.times.headD 0) ∧
      Event.time lib.deps.time (w1.times.headD 0) ∈ (create cfg lib f w).events := by
  obtain ⟨junk, e, w1, ha, _, hev, hg⟩ := C18.create_events cfg lib f w b h
  cases hg.symm.trans hd
  exact ⟨_, e, w1, ha, rfl, by rw [hev]; simp⟩

/-- so the birthday a freshly created seed reports obeys the bounds above for the clock value `t` it was created at. -/
theorem created_seed_birthday (t : Nat) (d : Data) (hd : d.birthday = birthdayEncode t) (h1 : EPOCH ≤ t) (h2 : t < RANGE_END) :
    getBirthday d ≤ t ∧ t < getBirthday d + TIME_STEP := by
  unfold getBirthday; rw [hd]; exact birthday_in_range t h1 h2

/-- the password operation keeps the birthday. -/
theorem crypt_birthday (d : Data) (mask : List Nat) : (cryptData d mask).birthday = d.birthday := rfl

/-- storing and loading keeps the birthday (any well-formed seed). -/
theorem store_load_birthday (d d' : Data) (hwf : d.WF) (h : dataLoad (dataStore d) = (.ok, some d')) :
    getBirthday d' = getBirthday d := by
  rw [dataLoad_dataStore d hwf] at h
  cases h
  rfl

/-- non-vacuity: a concrete in-range clock value (1 Dec 2021, the first test vector). -/
example : EPOCH ≤ 1638446400 ∧ 1638446400 < RANGE_END ∧ birthdayEncode 1638446400 = 1 := by decide

end Polyseed.C11
