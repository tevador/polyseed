import Polyseed.Lemmas.PackSpec
import Polyseed.Lemmas.Api
import Polyseed.Lemmas.Decode
import Polyseed.Lemmas.Tables
import Polyseed.Props.C05
import Polyseed.Props.C02Phrase
import Polyseed.Lemmas.Heap
/-!
# C01 — encoding a seed to a phrase and decoding it returns the identical seed

For EVERY canonical seed, coin < 2048 and language whose table passed the kernel-evaluated check.
The injected normalisers enter through one explicit hypothesis (`NormOK`): what the library's
`UTF8_DECOMPOSE` returns for the phrase `polyseed_encode` produced is the 16 words joined by single
spaces.  For phrases without non-ASCII bytes this is proved (`normOK_ascii`); for the others it is a
statement about Unicode data that suite S-norm validates by exhaustive execution over all words.
-/
namespace Polyseed.C01

/-- the phrase `polyseed_encode` returns (model of its output buffer) -/
def encoded (env : Env) (lib : Lib) (L : Lang) (d : Data) (coin : Nat) : List Nat :=
  if L.compose then env.nfc lib.deps.nfc (encodeTmp L d coin) else encodeTmp L d coin

/-- the 16 words of the phrase -/
def phraseWords (L : Lang) (d : Data) (coin : Nat) : List (List Nat) :=
  (encodeCoeffs d coin).map (fun c => L.words.getD c [])

/-- the normaliser hypothesis, for one phrase -/
def NormOK (cfg : Cfg) (env : Env) (lib : Lib) (L : Lang) (d : Data) (coin : Nat) : Prop :=
  (decompose cfg env lib (encoded env lib L d coin)).1 = joinWords [32] (phraseWords L d coin)

/-- `NormOK` holds outright when the language does not compose, separates by a space and the phrase is ASCII. -/
theorem normOK_ascii (cfg : Cfg) (env : Env) (lib : Lib) (L : Lang) (d : Data) (coin : Nat)
    (hc : L.compose = false) (hsep : L.sep = [32])
    (hlen : (encodeTmp L d coin).length < cfg.strSize)
    (hascii : (encodeTmp L d coin).any (isNeg) = false) : NormOK cfg env lib L d coin := by
  unfold NormOK encoded decompose lazyNfkd
  have ht : (encodeTmp L d coin).take (cfg.strSize - 1) = encodeTmp L d coin := List.take_of_length_le (by omega)
  simp only [hc, Bool.false_eq_true, ↓reduceIte, ht, hascii]
  simp only [encodeTmp, phraseWords, hsep]

/-- For an all-ASCII language (`asciiCheck`: English, Italian, Czech, Portuguese — `Tables.T0/T5/T6/T7.asciiOk`)
the normaliser hypothesis holds outright for every seed and coin: the round trip needs no assumption about the
injected normalisers at all. -/
theorem normOK_of_asciiCheck (cfg : Cfg) (env : Env) (lib : Lib) (L : Lang) (d : Data) (coin : Nat)
    (ha : asciiCheck L = true) (hlen : (encodeTmp L d coin).length < cfg.strSize) : NormOK cfg env lib L d coin := by
  simp only [asciiCheck, Bool.and_eq_true, List.all_eq_true, decide_eq_true_eq, Bool.not_eq_true'] at ha
  obtain ⟨⟨hw, hsep⟩, hc⟩ := ha
  refine normOK_ascii cfg env lib L d coin hc hsep hlen (List.any_eq_false.mpr fun b hb => ?_)
  have hall : (encodeTmp L d coin).all (fun b => Nat.blt b 128) = true :=
    joinWords_all _ _ (by rw [hsep]; rfl) _ fun w hw' => by
      obtain ⟨c, _, rfl⟩ := List.mem_map.mp hw'
      exact getD_elim (·.all (Nat.blt · 128) = true) _ [] c rfl fun x hx => List.all_eq_true.mpr (hw x hx)
  have : b < 128 := Nat.blt_eq.mp (List.all_eq_true.mp hall b hb)
  simp only [isNeg, decide_eq_true_eq]
  omega

/-- **what the decoders make of an encoded phrase**: the tokeniser returns the 16 words, the lookup their indices, so
explicit decoding (for any coin `c`) is the common tail on the indices the encoder used -/
theorem decodeExplicit_encoded (cfg : Cfg) (env : Env) (lib : Lib) (L : Lang) (d : Data) (coin c : Nat) (w : World)
    (hnw : cfg.numWords = 16) (hT : TableOK L) (hd : d.WF) (hcoin : coin < 2048) (hnorm : NormOK cfg env lib L d coin) :
    decodeExplicit cfg env lib (encoded env lib L d coin) c L w =
      decodeFinish cfg lib (encodeCoeffs d coin) c none (decompose cfg env lib (encoded env lib L d coin)).2 w :=
  C02.decodeExplicit_of_words cfg env lib L hT _ (encodeCoeffs_length d hd coin) (encodeCoeffs_lt d hd coin hcoin) _ c w hnw hnorm

theorem decodeFinish_encodeCoeffs (cfg : Cfg) (lib : Lib) (d : Data) (hd : d.Canon) (coin : Nat) (lo : Option Nat) (pre : List Event)
    {w w1 : World} {e : Event} {b : Nat} {junk : Data} (hs : featuresSupported lib.reserved d.features = true)
    (ha : doAlloc cfg lib w = (some (b, junk), e, w1)) :
    decodeFinish cfg lib (encodeCoeffs d coin) coin lo pre w =
      ⟨lib.put b d, ⟨.ok, some b, lo⟩, pre ++ [e] ++ decodeWipes cfg lib, w1⟩ := by
  -- with the coin taken off, the indices are the seed's own polynomial: it validates and unpacks to the seed
  have hp := C05.applyCoin_encodeCoeffs d coin
  have hu := polyToData_dataToPoly d hd.toWF
  rw [decodeFinish_ok (by rw [hp]; exact (polyCheck_cons_iff _ _).mpr hd.checksum_ok) ha (by rw [hp, hu]; exact hs), hp, hu]

/-- **Explicit decoding of an encoded phrase succeeds and yields the identical seed** (secret, birthday,
features — hence encryption flag —, check value; consequently identical serialized bytes and KDF inputs,
which are functions of these fields: `C06.store_bytes`, `C04.kdfArgs_path_independent`). -/
theorem decodeExplicit_encode (cfg : Cfg) (env : Env) (lib : Lib) (L : Lang) (d : Data) (coin : Nat) (w w1 : World)
    (e : Event) (b : Nat) (junk : Data)
    (hnw : cfg.numWords = 16) (hT : TableOK L) (hd : d.Canon) (hcoin : coin < 2048)
    (hs : featuresSupported lib.reserved d.features = true)
    (hnorm : NormOK cfg env lib L d coin)
    (ha : doAlloc cfg lib w = (some (b, junk), e, w1)) :
    let r := decodeExplicit cfg env lib (encoded env lib L d coin) coin L w
    r.out.status = .ok ∧ r.out.seed = some b ∧ r.lib.get b = some d := by
  rw [decodeExplicit_encoded cfg env lib L d coin coin w hnw hT hd.toWF hcoin hnorm, decodeFinish_encodeCoeffs cfg lib d hd coin _ _ hs ha]
  exact ⟨rfl, rfl, Lib.get_put_self ..⟩

/-- decoding for any other coin fails with the checksum status (C05 lifted to phrases). -/
theorem decodeExplicit_wrong_coin (cfg : Cfg) (env : Env) (lib : Lib) (L : Lang) (d : Data) (a c : Nat) (w : World)
    (hnw : cfg.numWords = 16) (hT : TableOK L) (hd : d.Canon) (ha : a < 2048) (hc : c < 2048) (hac : a ≠ c)
    (hnorm : NormOK cfg env lib L d a) :
    (decodeExplicit cfg env lib (encoded env lib L d a) c L w).out.status = .checksum := by
  rw [decodeExplicit_encoded cfg env lib L d a c w hnw hT hd.toWF ha hnorm,
    decodeFinish_checksum (C05.encodeCoeffs_wrong_coin d hd a c ha hc hac)]

/-- the same for automatic detection: the language loop on the 16 words, then the common tail -/
theorem decode_encoded (cfg : Cfg) (env : Env) (lib : Lib) (li : Nat) (hli : li < cfg.langs.length) (d : Data) (coin : Nat) (w : World)
    (hnw : cfg.numWords = 16) (hT : TableOK cfg.langs[li]) (hd : d.WF) (hcoin : coin < 2048)
    (hnorm : NormOK cfg env lib cfg.langs[li] d coin) :
    let det := phraseDecode cfg.langs (phraseWords cfg.langs[li] d coin)
    let pre := (decompose cfg env lib (encoded env lib cfg.langs[li] d coin)).2 ++ [detectWipe cfg lib]
    (li, encodeCoeffs d coin) ∈ matching (phraseWords cfg.langs[li] d coin) cfg.langs 0 ∧
    decode cfg env lib (encoded env lib cfg.langs[li] d coin) coin w =
      if det.status ≠ .ok then ⟨lib, ⟨det.status, none, det.langOut⟩, pre ++ decodeWipes cfg lib, w⟩
      else decodeFinish cfg lib det.idx coin det.langOut pre w :=
  ⟨(matching_iff _ cfg.langs li _).mpr ⟨hli, findAll_words _ hT _ (encodeCoeffs_lt d hd coin hcoin)⟩,
   decode_tokens cfg env lib _ (by rw [List.length_map, encodeCoeffs_length d hd, hnw]) (words_nonempty_nospace _ hT _ (encodeCoeffs_lt d hd coin hcoin)) _ coin w hnorm⟩

/-- **Automatic detection**: yields that same seed together with that same language, or the
'multiple languages' status; never another seed, another language or any other error. -/
theorem decode_encode (cfg : Cfg) (env : Env) (lib : Lib) (li : Nat) (hli : li < cfg.langs.length) (d : Data) (coin : Nat)
    (w w1 : World) (e : Event) (b : Nat) (junk : Data)
    (hnw : cfg.numWords = 16) (hT : TableOK cfg.langs[li]) (hd : d.Canon) (hcoin : coin < 2048)
    (hs : featuresSupported lib.reserved d.features = true)
    (hnorm : NormOK cfg env lib cfg.langs[li] d coin)
    (ha : doAlloc cfg lib w = (some (b, junk), e, w1)) :
    let r := decode cfg env lib (encoded env lib cfg.langs[li] d coin) coin w
    (r.out.status = .ok ∧ r.out.seed = some b ∧ r.out.langOut = some li ∧ r.lib.get b = some d) ∨
    (r.out.status = .multLang ∧ r.out.seed = none ∧ r.lib = lib) := by
  obtain ⟨hmem, hdec⟩ := decode_encoded cfg env lib li hli d coin w hnw hT hd.toWF hcoin hnorm
  simp only [hdec, phraseDecode_spec]
  split <;> rename_i hm <;> rw [hm] at hmem
  · simp at hmem
  · -- this language alone recognises the words: the common tail on the encoder's indices
    simp only [List.mem_singleton, Prod.mk.injEq] at hmem
    obtain ⟨rfl, rfl⟩ := hmem
    simp only [ne_eq, not_true_eq_false, ↓reduceIte]
    rw [decodeFinish_encodeCoeffs cfg lib d hd coin _ _ hs ha]
    exact .inl ⟨rfl, rfl, rfl, Lib.get_put_self ..⟩
  · exact .inr (by simp)

/-- non-vacuity: seed 1 of tests.c is canonical (so the theorems apply to it). -/
example : (Data.mk 1 0 ([0xdd, 0x76, 0xe7, 0x35, 0x9a, 0x0d, 0xed, 0x37, 0xcd, 0x0f, 0xf0, 0xf3, 0xc8, 0x29, 0xa5, 0xae, 0x01, 0x67, 0x33] ++ List.replicate 13 0) 1427).Canon :=
  { birthday_lt := by decide, features_lt := by decide, checksum_lt := by decide, secret_len := by decide,
    secret_bytes := by decide, secret_top := by decide, secret_pad := by decide, checksum_ok := by decide +kernel }

/-- consequently the decoded seed has the same serialized bytes, the same key-derivation inputs for every
coin and key size, the same birthday, the same user features and the same encryption flag. -/
theorem roundtrip_observations (cfg : Cfg) (env : Env) (lib : Lib) (L : Lang) (d : Data) (coin : Nat) (w w1 : World)
    (e : Event) (b : Nat) (junk : Data)
    (hnw : cfg.numWords = 16) (hT : TableOK L) (hd : d.Canon) (hcoin : coin < 2048)
    (hs : featuresSupported lib.reserved d.features = true)
    (hnorm : NormOK cfg env lib L d coin)
    (ha : doAlloc cfg lib w = (some (b, junk), e, w1)) :
    ∃ d', (decodeExplicit cfg env lib (encoded env lib L d coin) coin L w).lib.get b = some d' ∧
      store d' = store d ∧ (∀ c n, keygen env lib d' c n = keygen env lib d c n) ∧
      getBirthday d' = getBirthday d ∧ (∀ m, getFeature d' m = getFeature d m) ∧ isEncryptedSeed d' = isEncryptedSeed d := by
  obtain ⟨_, _, hg⟩ := decodeExplicit_encode cfg env lib L d coin w w1 e b junk hnw hT hd hcoin hs hnorm ha
  exact ⟨d, hg, rfl, fun _ _ => rfl, rfl, fun _ => rfl, rfl⟩

/-- with automatic detection the 'multiple languages' status is returned exactly when some OTHER registered
language recognises all 16 words of the phrase as well. -/
theorem decode_encode_multLang_iff (cfg : Cfg) (env : Env) (lib : Lib) (li : Nat) (hli : li < cfg.langs.length) (d : Data) (coin : Nat)
    (w : World) (hnw : cfg.numWords = 16) (hT : TableOK cfg.langs[li]) (hd : d.Canon) (hcoin : coin < 2048)
    (hnorm : NormOK cfg env lib cfg.langs[li] d coin) :
    (decode cfg env lib (encoded env lib cfg.langs[li] d coin) coin w).out.status = .multLang ↔
      ∃ (l' : Nat) (hl' : l' < cfg.langs.length), l' ≠ li ∧
        (findAll cfg.langs[l'] (phraseWords cfg.langs[li] d coin)).isSome = true := by
  obtain ⟨hmem, hdec⟩ := decode_encoded cfg env lib li hli d coin w hnw hT hd.toWF hcoin hnorm
  -- the status is that of the language loop: the common tail never answers 'multiple languages'
  have hst : (decode cfg env lib (encoded env lib cfg.langs[li] d coin) coin w).out.status = .multLang ↔
      (phraseDecode cfg.langs (phraseWords cfg.langs[li] d coin)).status = .multLang := by
    rw [hdec]
    split
    · rfl
    · rename_i hok
      rw [Decidable.not_not.mp hok]
      exact ⟨fun h => absurd (h ▸ decodeFinish_statuses ..) (by simp), fun h => nomatch h⟩
  rw [hst, phraseDecode_multLang_iff_of_mem _ _ hmem]
  constructor
  · rintro ⟨x, hx, hne⟩
    obtain ⟨hl, hf⟩ := (matching_iff _ _ x.1 x.2).mp hx
    exact ⟨x.1, hl, hne, by rw [hf]; rfl⟩
  · rintro ⟨l', hl', hne, hsome⟩
    obtain ⟨idx', hidx'⟩ := Option.isSome_iff_exists.mp hsome
    exact ⟨(l', idx'), (matching_iff _ _ l' idx').mpr ⟨hl', hidx'⟩, hne⟩

end Polyseed.C01
