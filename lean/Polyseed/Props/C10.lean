import Polyseed.Lemmas.Api
import Polyseed.Props.C18
import Polyseed.Lemmas.Basic
/-!
# C10 — reserved feature bits are refused at every entry point; enabled ones work
-/
namespace Polyseed.C10

/-- number of user bits set in `m` (bits 0..2) -/
def userBits (m : Nat) : Nat := m % 2 + m / 2 % 2 + m / 4 % 2

/-- one round of the loop without the branch: bit `i` of `mask` is taken out of `r` and added to `n` -/
theorem enableLoop_succ (mask fuel i r n : Nat) :
    enableLoop mask (fuel + 1) i r n =
      enableLoop mask fuel (i + 1) (r ^^^ mask / 2 ^ i % 2 * 2 ^ i) (n + mask / 2 ^ i % 2) := by
  rw [enableLoop, and_bit, Nat.one_shiftLeft]
  rcases Nat.mod_two_eq_zero_or_one (mask / 2 ^ i) with h | h <;> simp [h]

/-- `polyseed_enable_features(m)`: the reserved set becomes "everything but the encryption bit and the
user bits of `m`" (as a number: `15 - m % 8`), the return value is the number of user bits set in `m`;
for every 32-bit argument, higher bits are ignored. -/
theorem enable_spec (m : Nat) : enableFeatures m = (15 - m % 8, userBits m) := by
  have hm : m % 8 = m % 2 + 2 * (m / 2 % 2 + 2 * (m / 4 % 2)) := by
    rw [show 8 = 2 * (2 * 2) from rfl, Nat.mod_mul, Nat.mod_mul, Nat.div_div_eq_div_mul]
  -- taking distinct user bits out of 15 subtracts them
  have hx : ∀ b0 < 2, ∀ b1 < 2, ∀ b2 < 2, reservedInit ^^^ b0 ^^^ b1 * 2 ^^^ b2 * 4 = 15 - (b0 + 2 * (b1 + 2 * b2)) := by
    decide
  have hb (x : Nat) : x % 2 < 2 := Nat.mod_lt x (by decide)
  rw [enableFeatures, USER_FEATURES, enableLoop_succ, enableLoop_succ, enableLoop_succ, enableLoop]
  simp only [Nat.reduceAdd, Nat.reducePow, Nat.div_one, Nat.mul_one, Nat.zero_add]
  rw [hx _ (hb _) _ (hb _) _ (hb _), hm, userBits]

/-- the most recent enabling call wins: the state after a call depends on that call's argument only. -/
theorem enable_last_wins (lib : Lib) (m1 m2 : Nat) :
    (enable (enable lib m1).1 m2).1.reserved = (enable lib m2).1.reserved := rfl

/-- the API function: bits of the argument above the 32 of `unsigned` do not show in either result -/
theorem enable_reserved (lib : Lib) (m : Nat) : (enable lib m).1.reserved = 15 - m % 8 ∧ (enable lib m).2 = userBits m := by
  unfold enable
  rw [enable_spec, Nat.mod_mod_of_dvd m (by decide : 8 ∣ 2 ^ 32)]
  exact ⟨rfl, show userBits (m % 2 ^ 32) = userBits m by unfold userBits; omega⟩

/-- the rule, written without reference to the code: every set bit of the 5-bit feature value is the
encryption bit (4) or a user bit (0..2) that is enabled in `mask`. -/
def SupportedSpec (mask f : Nat) : Prop :=
  ∀ i, i < 5 → f.testBit i = true → (i = 4 ∨ (i < 3 ∧ mask.testBit i = true))

instance (mask f : Nat) : Decidable (SupportedSpec mask f) := by unfold SupportedSpec; infer_instance

theorem supported_iff_all :
    (List.range 8).all (fun mask => (List.range 32).all (fun f =>
      featuresSupported (15 - mask) f == decide (SupportedSpec mask f))) = true := by
  decide +kernel

/-- with user mask `mask` enabled, a 5-bit feature value is supported iff it has no bit outside `mask` and the encryption bit. -/
theorem supported_iff (mask f : Nat) (hm : mask < 8) (hf : f < 32) :
    featuresSupported (15 - mask) f = true ↔ SupportedSpec mask f := by
  rw [beq_iff_eq.mp (all_range (all_range supported_iff_all hm) hf), decide_eq_true_iff]

/-- none enabled by default. -/
theorem default_mask : Lib.init.reserved = 15 - 0 % 8 := rfl

/-- `polyseed_create`: refused with the unsupported status exactly when the requested user bits are not all enabled
(before anything is allocated or any dependency is called); otherwise the stored feature bits are exactly the three low bits requested. -/
theorem create_unsupported_iff (cfg : Cfg) (lib : Lib) (f : Nat) (w : World) :
    (create cfg lib f w).out.1 = .unsupported ↔ featuresSupported lib.reserved (f % 2 ^ 32 &&& 7) = false := by
  rcases create_cases cfg lib f w with ⟨h, e⟩ | ⟨_, _, h, _, e⟩ | ⟨_, _, _, _, h, _, e⟩ <;>
    simp [e, show f % 2 ^ 32 &&& 7 = makeFeatures (f % 2 ^ 32) from rfl, h]

theorem create_unsupported_no_events (cfg : Cfg) (lib : Lib) (f : Nat) (w : World)
    (h : (create cfg lib f w).out.1 = .unsupported) :
    (create cfg lib f w).events = [] ∧ (create cfg lib f w).lib = lib := by
  rw [create_unsupported_iff] at h
  rw [create_unsupported h]; exact ⟨rfl, rfl⟩

theorem create_features (cfg : Cfg) (lib : Lib) (f : Nat) (w : World) (b : Nat) (d : Data)
    (h : (create cfg lib f w).out = (.ok, some b)) (hd : (create cfg lib f w).lib.get b = some d) :
    d.features = f % 2 ^ 32 &&& 7 := by
  obtain ⟨_, _, _, _, _, _, hg⟩ := C18.create_events cfg lib f w b h
  cases hg.symm.trans hd
  rfl

/-- feature queries return exactly the stored user bits selected by the mask. -/
theorem getFeature_spec (d : Data) (mask : Nat) : getFeature d mask = d.features &&& (mask % 2 ^ 32 &&& 7) := rfl

/-- the tail shared by both decoders: once the checksum passed and memory was obtained, the
unsupported status is returned exactly when the decoded feature bits are not supported. -/
theorem decodeFinish_unsupported_iff (cfg : Cfg) (lib : Lib) (idx : List Nat) (coin : Nat) (lo : Option Nat)
    (pre : List Event) (w : World) :
    (decodeFinish cfg lib idx coin lo pre w).out.status = .unsupported ↔
      polyCheck (applyCoin idx coin) = true ∧ (∃ a e w1, doAlloc cfg lib w = (some a, e, w1)) ∧
        featuresSupported lib.reserved (polyToData (applyCoin idx coin)).features = false := by
  rcases decodeFinish_cases cfg lib idx coin lo pre w with
    ⟨hc, e⟩ | ⟨_, _, hc, ha, e⟩ | ⟨_, _, _, _, hc, ha, hs, e⟩ | ⟨_, _, _, _, hc, ha, hs, e⟩ <;>
    simp [*]

/-- ... and then no seed is handed out and the block that was taken is wiped and returned. -/
theorem decodeFinish_unsupported_frees (cfg : Cfg) (lib : Lib) (idx : List Nat) (coin : Nat) (lo : Option Nat)
    (pre : List Event) (w : World) (h : (decodeFinish cfg lib idx coin lo pre w).out.status = .unsupported) :
    (decodeFinish cfg lib idx coin lo pre w).out.seed = none ∧ (decodeFinish cfg lib idx coin lo pre w).lib = lib := by
  obtain ⟨hc, ⟨⟨b, junk⟩, e, w1, ha⟩, hs⟩ := (decodeFinish_unsupported_iff ..).mp h
  rw [decodeFinish_unsupported hc ha hs]; exact ⟨rfl, rfl⟩

/-- `polyseed_load`: after allocation, format and checksum passed, unsupported iff the stored bits are not supported. -/
theorem load_unsupported_iff (cfg : Cfg) (lib : Lib) (buf : List Nat) (w : World) :
    (load cfg lib buf w).out.1 = .unsupported ↔
      (∃ a e w1, doAlloc cfg lib w = (some a, e, w1)) ∧
      ∃ d, dataLoad buf = (.ok, some d) ∧ polyCheck (d.checksum :: dataToPoly d) = true ∧
        featuresSupported lib.reserved d.features = false := by
  rcases ha : doAlloc cfg lib w with ⟨_ | ⟨b, junk⟩, e, w1⟩
  · rw [load_memory ha]; simp
  · rcases load_cases buf ha with ⟨hl, e⟩ | ⟨d, hl, ⟨hc, e⟩ | ⟨hc, hs, e⟩ | ⟨hc, hs, e⟩⟩ <;> rw [e] <;> simp [*]

/-- crypt, store and encode keep the user bits. -/
theorem crypt_user_bits (d : Data) (mask : List Nat) (hf : d.features < 32) :
    (cryptData d mask).features &&& 7 = d.features &&& 7 := by
  show (d.features ^^^ ENCRYPTED_MASK) &&& 7 = d.features &&& 7
  rw [Nat.and_xor_distrib_right]; simp [ENCRYPTED_MASK]

/-- non-vacuity: mask 5 accepts feature value 21 (= 16 + 4 + 1) and refuses 2. -/
example : SupportedSpec 5 21 ∧ ¬ SupportedSpec 5 2 ∧ featuresSupported (15 - 5) 21 = true ∧ featuresSupported (15 - 5) 2 = false := by
  decide

end Polyseed.C10
