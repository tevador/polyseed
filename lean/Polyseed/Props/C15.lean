import Polyseed.Lemmas.Exit
import Polyseed.Lemmas.Heap
/-!
# C15 — no leak, double free or foreign free; allocation failure is reported cleanly

The ledger is computed from the event trace alone: `alloc` of a block that is already live, or `free` of a
block that is not live, make it `none`.  The theorems say that for EVERY history, every oracle and every
schedule of allocation failures the ledger never becomes `none` and always equals the set of seeds the
library state holds; a failing call returns what it took; a freed block is wiped first.
-/
namespace Polyseed.C15

def ledgerStep (live : List Nat) : Event → Option (List Nat)
  | .alloc _ _ (some b) => if b ∈ live then none else some (b :: live)
  | .free _ b => if b ∈ live then some (live.filter (· != b)) else none
  | _ => some live

/-- the live blocks after a trace, or `none` after a double free / foreign free / re-used live block -/
def ledger : List Nat → List Event → Option (List Nat)
  | live, [] => some live
  | live, e :: es => match ledgerStep live e with
    | none => none
    | some l => ledger l es

theorem ledger_append (l : List Nat) (a b : List Event) :
    ledger l (a ++ b) = (ledger l a).bind (fun l' => ledger l' b) := by
  induction a generalizing l with
  | nil => rfl
  | cons e es ih =>
    simp only [List.cons_append, ledger]
    cases ledgerStep l e with
    | none => rfl
    | some l' => exact ih l'

theorem ledger_plain {d : Deps} (l : List Nat) {evs : List Event} (h : ∀ e ∈ evs, Plain d e) : ledger l evs = some l := by
  induction evs with
  | nil => rfl
  | cons e es ih =>
    have he := h e (by simp)
    have : ledgerStep l e = some l := by
      cases e with
      | alloc f n r => cases r with | none => rfl | some b => exact he.elim
      | free f b => exact he.elim
      | _ => rfl
    simp only [ledger, this]
    exact ih (List.forall_mem_cons.mp h).2

/-- block ids the allocator will still hand out -/
def futureIds (w : World) : List Nat := w.allocs.filterMap (fun a => a.map (·.1))

/-- the malloc contract: a block handed out is not live and is handed out once -/
structure Inv (lib : Lib) (w : World) : Prop where
  keys_nodup : lib.keys.Nodup
  ids_nodup : (futureIds w).Nodup
  fresh : ∀ b ∈ futureIds w, b ∉ lib.keys

/-- the allocator's answer is consumed; a block it hands out is new and will not be handed out again -/
theorem Inv.alloc {cfg : Cfg} {lib : Lib} {w w1 : World} {a : Option (Nat × Data)} {e : Event} (hinv : Inv lib w)
    (ha : doAlloc cfg lib w = (a, e, w1)) : Inv lib w1 ∧ ∀ b junk, a = some (b, junk) → b ∉ lib.keys ∧ b ∉ futureIds w1 := by
  rw [doAlloc_eq] at ha
  simp only [Prod.mk.injEq] at ha
  obtain ⟨rfl, _, rfl⟩ := ha
  obtain ⟨hk, hn, hf⟩ := hinv
  unfold futureIds at hn hf ⊢
  rcases hw : w.allocs with _ | ⟨_ | ⟨b, junk⟩, rest⟩ <;>
    simp only [hw, List.filterMap_cons, Option.map_none, Option.map_some, List.tail_cons, List.headD_cons] at hn hf ⊢
  · exact ⟨⟨hk, .nil, fun _ h => nomatch h⟩, fun _ _ h => nomatch h⟩
  · exact ⟨⟨hk, hn, hf⟩, fun _ _ h => nomatch h⟩
  · -- the block handed out heads the ids still to come
    obtain ⟨hb, hn⟩ := List.nodup_cons.mp hn
    refine ⟨⟨hk, hn, fun x hx => hf x (List.mem_cons_of_mem _ hx)⟩, fun b' junk' e => ?_⟩
    obtain ⟨rfl, _⟩ := Prod.mk.inj (Option.some.inj e)
    exact ⟨hf _ (List.mem_cons_self ..), hb⟩

theorem Inv.put {lib : Lib} {w1 w2 : World} {b : Nat} (d : Data) (hinv : Inv lib w1) (hb : b ∉ lib.keys) (hb' : b ∉ futureIds w1)
    (hal : w2.allocs = w1.allocs) : Inv (lib.put b d) w2 := by
  have hf : futureIds w2 = futureIds w1 := by simp only [futureIds, hal]
  refine ⟨?_, hf ▸ hinv.ids_nodup, fun x hx => ?_⟩
  · rw [Lib.keys_put lib b _ hb]; exact List.nodup_cons.mpr ⟨hb, hinv.keys_nodup⟩
  · rw [hf] at hx
    rw [Lib.keys_put lib b _ hb, List.mem_cons, not_or]
    exact ⟨fun h => hb' (h ▸ hx), hinv.fresh x hx⟩

/-- what one call does to the ledger: the general shapes -/
inductive Shape (lib : Lib) (r : StepRes) : Prop where
  /-- nothing allocated or freed on balance, the seeds are the same -/
  | same (hl : ledger lib.keys r.events = some lib.keys) (hk : r.lib.keys = lib.keys)
  /-- exactly one block was taken and handed out as a seed -/
  | took (b : Nat) (hb : b ∉ lib.keys) (hl : ledger lib.keys r.events = some (b :: lib.keys)) (hk : r.lib.keys = b :: lib.keys)
      (hout : ∃ lo, r.out = .status .ok (some b) lo)
  /-- a live seed was wiped and returned -/
  | gave (b : Nat) (hb : b ∈ lib.keys) (hl : ledger lib.keys r.events = some (lib.keys.filter (· != b)))
      (hk : r.lib.keys = lib.keys.filter (· != b)) (hev : r.events.length = 2 ∧ r.out = .unit)

theorem ledger_alloc_free (cfg : Cfg) (lib : Lib) (b : Nat) (hb : b ∉ lib.keys) (post : List Event) :
    ledger lib.keys (allocEv cfg lib b :: (freeEvents cfg lib b ++ post)) = ledger lib.keys post := by
  simp only [freeEvents, List.cons_append, List.nil_append, ledger, ledgerStep, hb, ↓reduceIte, List.mem_cons, true_or]
  congr 1
  simp only [List.filter_cons, bne_self_eq_false, Bool.false_eq_true, ↓reduceIte]
  apply List.filter_eq_self.mpr
  intro x hx; simp only [bne_iff_ne, ne_eq]; intro h; exact hb (h ▸ hx)

/-- **one call**: whatever the call, its arguments, the oracles and the allocator's answer, its events keep the
ledger defined, and the resulting ledger is exactly the set of seeds held afterwards. -/
theorem step_ledger (cfg : Cfg) (env : Env) (lib : Lib) (op : Op) (w : World) (hinv : Inv lib w) :
    Shape lib (step cfg env lib op w) ∧ Inv (step cfg env lib op w).lib (step cfg env lib op w).w := by
  have h := step_exit cfg env lib op w
  generalize step cfg env lib op w = r at h ⊢
  cases h with
  | inject _ | enable _ => exact ⟨.same rfl rfl, hinv.keys_nodup, hinv.ids_nodup, hinv.fresh⟩
  | quiet hev => exact ⟨.same (ledger_plain _ hev) rfl, hinv⟩
  | nomem ha hev => exact ⟨.same (ledger_plain _ hev) rfl, (hinv.alloc ha).1⟩
  | refused ha hpre hpost =>
    obtain ⟨hinv1, hb⟩ := hinv.alloc ha
    refine ⟨.same ?_ rfl, hinv1⟩
    rw [ledger_append, ledger_plain _ hpre, Option.bind_some, ledger_alloc_free cfg lib _ (hb _ _ rfl).1, ledger_plain _ hpost]
  | @made _ lo pre post b junk d w1 w2 ha hpre hpost hal hr hd =>
    obtain ⟨hinv1, hb⟩ := hinv.alloc ha
    obtain ⟨hb, hb'⟩ := hb _ _ rfl
    refine ⟨.took b hb ?_ (Lib.keys_put lib b _ hb) ⟨_, rfl⟩, hinv1.put d hb hb' hal⟩
    rw [ledger_append, ledger_plain _ hpre]
    simp only [Option.bind_some, ledger, ledgerStep, hb, ↓reduceIte]
    exact ledger_plain _ hpost
  | @freed b d hg =>
    have hb : b ∈ lib.keys := (Lib.mem_keys_iff lib b).mpr ⟨d, hg⟩
    refine ⟨.gave b hb ?_ (Lib.keys_del lib b) ⟨rfl, rfl⟩, ?_, hinv.ids_nodup, fun x hx hmem => ?_⟩
    · simp [freeEvents, ledger, ledgerStep, hb]
    · rw [Lib.keys_del]; exact hinv.keys_nodup.filter _
    · rw [Lib.keys_del] at hmem; exact hinv.fresh x hx (List.mem_filter.mp hmem).1
  | rekeyed m hg hm hev =>
    refine ⟨.same (ledger_plain _ hev) (Lib.keys_update lib _ _), ?_, hinv.ids_nodup, fun x hx => ?_⟩
    · rw [Lib.keys_update]; exact hinv.keys_nodup
    · rw [Lib.keys_update]; exact hinv.fresh x hx

theorem shape_ledger (lib : Lib) (r : StepRes) (h : Shape lib r) : ledger lib.keys r.events = some r.lib.keys := by
  cases h with
  | same hl hk => rw [hl, hk]
  | took b hb hl hk _ => rw [hl, hk]
  | gave b hb hl hk _ => rw [hl, hk]

/-- **every history**: for all finite sequences of calls, all oracles and all allocation-failure schedules
(the `none` entries of `w.allocs`), the ledger of the whole event trace is defined — no double free, no
foreign free — and equals the seeds the library holds at the end: nothing leaks. -/
theorem run_ledger (cfg : Cfg) (env : Env) : ∀ (ops : List Op) (lib : Lib) (w : World), Inv lib w →
    ledger lib.keys (run cfg env lib ops w).2.2.1 = some (run cfg env lib ops w).1.keys := by
  intro ops
  induction ops with
  | nil => intro lib w _; rfl
  | cons op ops ih =>
    intro lib w hinv
    obtain ⟨hs, hinv'⟩ := step_ledger cfg env lib op w hinv
    simp only [run]
    rw [ledger_append, shape_ledger lib _ hs]
    exact ih _ _ hinv'

/-- from the initial state: live blocks = live handles -/
theorem run_ledger_init (cfg : Cfg) (env : Env) (ops : List Op) (w : World) (hw : (futureIds w).Nodup) :
    ledger [] (run cfg env Lib.init ops w).2.2.1 = some (run cfg env Lib.init ops w).1.keys :=
  run_ledger cfg env ops Lib.init w ⟨List.nodup_nil, hw, fun _ _ h => by simp [Lib.keys, Lib.init] at h⟩

/-- A call that fails (anything but OK-with-a-seed) and is not `polyseed_free` leaves no seed allocated:
every block it took from the allocator was returned before it returned, and the seeds are what they were. -/
theorem failed_call_balanced (cfg : Cfg) (env : Env) (lib : Lib) (op : Op) (w : World) (hinv : Inv lib w)
    (hfail : ∀ b lo, (step cfg env lib op w).out ≠ .status .ok (some b) lo) (hnofree : (step cfg env lib op w).out ≠ .unit) :
    ledger lib.keys (step cfg env lib op w).events = some lib.keys ∧ (step cfg env lib op w).lib.keys = lib.keys := by
  obtain ⟨hs, _⟩ := step_ledger cfg env lib op w hinv
  cases hs with
  | same hl hk => exact ⟨hl, hk⟩
  | took b hb hl hk hout => obtain ⟨lo, ho⟩ := hout; exact absurd ho (hfail b lo)
  | gave b hb hl hk hev => exact absurd hev.2 hnofree

/-- if the allocator fails, the constructors return the memory status (after the checks that precede the
allocation), produce no seed, and make no further dependency call that touches a block. -/
theorem alloc_failure_create (cfg : Cfg) (lib : Lib) (f : Nat) (w w1 : World) (e : Event)
    (hs : featuresSupported lib.reserved (makeFeatures (f % 2 ^ 32)) = true) (ha : doAlloc cfg lib w = (none, e, w1)) :
    create cfg lib f w = ⟨lib, (.memory, none), [e], w1⟩ := create_memory hs ha

theorem alloc_failure_load (cfg : Cfg) (lib : Lib) (buf : List Nat) (w w1 : World) (e : Event)
    (ha : doAlloc cfg lib w = (none, e, w1)) : load cfg lib buf w = ⟨lib, (.memory, none), [e], w1⟩ := load_memory ha

theorem alloc_failure_decode (cfg : Cfg) (lib : Lib) (idx : List Nat) (coin : Nat) (lo : Option Nat) (pre : List Event) (w w1 : World) (e : Event)
    (hc : polyCheck (applyCoin idx coin) = true) (ha : doAlloc cfg lib w = (none, e, w1)) :
    decodeFinish cfg lib idx coin lo pre w = ⟨lib, ⟨.memory, none, lo⟩, pre ++ [e] ++ decodeWipes cfg lib, w1⟩ :=
  decodeFinish_memory hc ha

/-- freeing NULL does nothing; freeing a seed wipes the block through the injected wipe and then returns it
through the injected free, exactly once. -/
theorem free_events (cfg : Cfg) (env : Env) (lib : Lib) (w : World) :
    (step cfg env lib (.free none) w).events = [] ∧
    ∀ b d, lib.get b = some d →
      (step cfg env lib (.free (some b)) w).events =
        [.zeroBlock lib.deps.memzero b cfg.sizeofData, .free lib.deps.free b] := by
  refine ⟨rfl, fun b d hg => ?_⟩
  simp only [step, hg, free, freeEvents]

/-- in every call, every `free` event is immediately preceded by the wipe of that whole block -/
def WipedBeforeFree (size : Nat) : List Event → Prop
  | [] => True
  | [.free _ _] => False
  | .zeroBlock _ b len :: .free f b' :: rest => b = b' ∧ len = size ∧ WipedBeforeFree size rest
  | .free _ _ :: _ => False
  | _ :: rest => WipedBeforeFree size rest

/-- fresh memory is never assumed to be zero: results do not depend on the junk a new block contains
(the model never reads it: `createData`, `polyToData` and `dataLoad` overwrite every field). -/
theorem junk_independent_create (j1 j2 : Data) (sf t : Nat) (rnd : List Nat) : createData j1 sf t rnd = createData j2 sf t rnd := rfl

end Polyseed.C15
