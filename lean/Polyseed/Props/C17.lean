import Polyseed.Lemmas.PackSpec
import Polyseed.Tables.Registry
import Polyseed.Tables.M0
import Polyseed.Tables.M1
import Polyseed.Tables.M2
import Polyseed.Tables.M3
import Polyseed.Tables.M4
import Polyseed.Tables.M5
import Polyseed.Tables.M6
import Polyseed.Tables.M7
import Polyseed.Tables.M8
import Polyseed.Tables.M9
/-!
# C17 — the public phrase-buffer size bounds every phrase the library can produce

The bound is the property's own decision procedure: per position the longest admissible word (the coin
makes every index admissible at word 2, the secret at the others), i.e. `16 * maxWordLen + 15 * |separator|`,
evaluated by the kernel on the regenerated tables and compared with the `POLYSEED_STR_SIZE` the C
compiler sees in the current tree.
-/
namespace Polyseed.C17

/-- every assembled phrase of 16 words is at most `maxPhrase L` bytes long — all seeds, all coins. -/
theorem encodeTmp_length_le (L : Lang) (d : Data) (coin : Nat) (h : (encodeCoeffs d coin).length = 16) :
    (encodeTmp L d coin).length ≤ maxPhrase L := by
  unfold encodeTmp maxPhrase
  have := joinWords_length_le L.sep (maxWordLen L) ((encodeCoeffs d coin).map (fun c => L.words.getD c []))
    (List.forall_mem_map.2 fun c _ => word_length_le L c)
  simp only [List.length_map, h] at this
  omega

/-- the kernel-evaluated bound, for every registered language of the current tree -/
theorem maxPhrase_lt_all : ∀ L ∈ Gen.registry, maxPhrase L < Gen.STR_SIZE :=
  Tables.forall_registry Tables.M0.maxPhrase_lt Tables.M1.maxPhrase_lt Tables.M2.maxPhrase_lt Tables.M3.maxPhrase_lt
    Tables.M4.maxPhrase_lt Tables.M5.maxPhrase_lt Tables.M6.maxPhrase_lt Tables.M7.maxPhrase_lt Tables.M8.maxPhrase_lt
    Tables.M9.maxPhrase_lt

/-- the decomposed phrase the library builds internally is strictly shorter than the buffer: `polyseed_encode`
never overruns `str_tmp` (the model's `overflow` outcome is unreachable). -/
theorem encode_no_overflow (cfg : Cfg) (hcfg : cfg.strSize = Gen.STR_SIZE) (env : Env) (lib : Lib)
    (L : Lang) (hL : L ∈ Gen.registry) (d : Data) (h : d.WF) (coin : Nat) :
    ∃ str, (encode cfg env lib d L coin).1 = .ok str str.length ∧
      str = (if L.compose then env.nfc lib.deps.nfc (encodeTmp L d coin) else encodeTmp L d coin) := by
  have hlen := encodeTmp_length_le L d coin (encodeCoeffs_length d h coin)
  have hlt := maxPhrase_lt_all L hL
  rw [encode_fits (by omega)]
  exact ⟨_, rfl, rfl⟩

/-- the composed output also fits the caller's buffer, and the returned size is the length of the output,
provided the injected NFC does not lengthen the phrase (composition never does). -/
theorem encode_output_fits (cfg : Cfg) (hcfg : cfg.strSize = Gen.STR_SIZE) (env : Env) (lib : Lib)
    (L : Lang) (hL : L ∈ Gen.registry) (d : Data) (h : d.WF) (coin : Nat)
    (hnfc : (env.nfc lib.deps.nfc (encodeTmp L d coin)).length ≤ (encodeTmp L d coin).length) :
    ∃ str, (encode cfg env lib d L coin).1 = .ok str str.length ∧ str.length < Gen.STR_SIZE := by
  obtain ⟨str, h1, h2⟩ := encode_no_overflow cfg hcfg env lib L hL d h coin
  refine ⟨str, h1, ?_⟩
  have hlen := encodeTmp_length_le L d coin (encodeCoeffs_length d h coin)
  have hlt := maxPhrase_lt_all L hL
  rw [h2]; split <;> omega

/-- every produced phrase can be fed back without truncation: the lazy NFKD copy keeps an ASCII phrase whole. -/
theorem lazyNfkd_no_truncation (strSize : Nat) (nfkd : List Nat → List Nat) (s : List Nat)
    (hlen : s.length < strSize) (hascii : s.any (isNeg) = false) :
    lazyNfkd strSize nfkd s = (s, false) := by
  unfold lazyNfkd
  have : s.take (strSize - 1) = s := List.take_of_length_le (by omega)
  simp only [this, hascii, Bool.false_eq_true, ↓reduceIte]

end Polyseed.C17
