import Polyseed.Model.Lang
/-!
# C19 — results do not depend on whether the platform's plain char is signed

After the repair of D2 the C code converts every `char` it compares or classifies through
`unsigned char` (`compare_char`, `IS_NON_ASCII`, `utf8_nfkd_lazy`), so the model works on byte
values `0..255` and has no signedness parameter at all: there is nothing left for a result to
depend on.  What remains to state is that the explicit order is the order a signed-char platform
used before (so the shipped sorted lists and all previously produced results are unaffected).
The tie to the code is S-sign: the same scripts on a `-fsigned-char` and a `-funsigned-char`
build, each compared with this one model and with each other.
-/
namespace Polyseed.C19

/-- the value of a byte held in a `signed char` -/
def signedVal (b : Nat) : Int := if 128 ≤ b then (b : Int) - 256 else (b : Int)

theorem sc_eq (b : Nat) : sc b = signedVal b + 128 := by
  unfold sc signedVal; split <;> omega

/-- `compare_char` orders bytes exactly as `signed char` comparison does -/
theorem rank_is_signed_order (a b : Nat) (ha : a < 256) (hb : b < 256) : sc a < sc b ↔ signedVal a < signedVal b := by
  rw [sc_eq, sc_eq]; omega

theorem sgnCmp_is_signed (a b : Nat) (ha : a < 256) (hb : b < 256) :
    sgnCmp a b = (if signedVal a < signedVal b then -1 else if signedVal b < signedVal a then 1 else 0) := by
  unfold sgnCmp
  simp only [rank_is_signed_order a b ha hb, rank_is_signed_order b a hb ha]

/-- `IS_NON_ASCII` is `c < 0` of a signed char -/
theorem isNeg_is_signed (b : Nat) (hb : b < 256) : isNeg b = true ↔ signedVal b < 0 := by
  unfold isNeg signedVal; simp only [decide_eq_true_eq]; split <;> omega

/-- and it is `c >= 0x80` of an unsigned char: one definition serves both platforms -/
theorem isNeg_is_unsigned (b : Nat) : isNeg b = true ↔ 128 ≤ b := by simp [isNeg]

/-- ASCII bytes keep their natural order, NUL sorts before every ASCII byte and after every non-ASCII byte -/
theorem rank_facts (a b : Nat) (ha : a < 128) (hb : b < 128) (c : Nat) (hc : 128 ≤ c) (hc2 : c < 256) :
    (sc a < sc b ↔ a < b) ∧ sc c < sc 0 ∧ (0 < a → sc 0 < sc a) := by
  unfold sc
  have h1 : ¬ (128 ≤ a) := by omega
  have h2 : ¬ (128 ≤ b) := by omega
  simp only [h1, h2, hc, ↓reduceIte, show ¬ (128 ≤ 0) by omega]
  omega

end Polyseed.C19
