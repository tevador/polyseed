import Polyseed.Lemmas.Gf
/-!
# C02 — the checksum catches every single-word error and every swap of two words

Stated on coefficient vectors (the 16 word indices after the coin has been
removed); `Props/C02Phrase.lean` lifts it to phrases through the word lookup.
All statements are for EVERY polynomial, not for samples: they follow from
XOR-linearity of `gf_poly_eval` and two kernel-evaluated facts about the 2048
field elements (`mul2` is the field's multiplication by x; no short cycles).
-/
namespace Polyseed.C02

/-- Replacing any one coefficient of a valid polynomial by a different field element invalidates it. -/
theorem single_error (p : List Nat) (hp : Coeffs p) (hc : polyCheck p = true)
    (i : Nat) (hi : i < p.length) (v : Nat) (hv : v < 2048) (hne : v ≠ p[i]) :
    polyCheck (p.set i v) = false := by
  unfold polyCheck at *
  have h0 : polyEval p = 0 := by simpa using hc
  rw [polyEval_set p hp i hi v hv, h0, Nat.zero_xor]
  have hd : v ^^^ p[i] < 2048 := Nat.xor_lt_two_pow (n := 11) hv (hp _ (List.getElem_mem hi))
  apply Bool.eq_false_iff.mpr
  intro h
  have hz : mul2Iter i (v ^^^ p[i]) = 0 := by simpa using h
  exact hne (eq_of_xor_eq_zero (mul2Iter_eq_zero i _ hd hz))

/-- exchanging the coefficients at positions `i < j` -/
def swap (p : List Nat) (i j : Nat) : List Nat := (p.set i (p.getD j 0)).set j (p.getD i 0)

/-- Exchanging two unequal coefficients of a valid polynomial (16 positions, so distance ≤ 15) invalidates it. -/
theorem swap_error (p : List Nat) (hp : Coeffs p) (hlen : p.length ≤ 16) (hc : polyCheck p = true)
    (i j : Nat) (hij : i < j) (hj : j < p.length) (hne : p.getD i 0 ≠ p.getD j 0) :
    polyCheck (swap p i j) = false := by
  have hi : i < p.length := by omega
  have gi : p.getD i 0 = p[i] := by simp [List.getD, hi]
  have gj : p.getD j 0 = p[j] := by simp [List.getD, hj]
  rw [gi, gj] at hne
  rw [swap, gi, gj]
  exact polyCheck_set_set p hp hlen hc i j hij hj _ _ (hp _ (List.getElem_mem hj)) (hp _ (List.getElem_mem hi))
    (Nat.xor_comm ..) (Ne.symm hne)

/-- For any data words there is exactly one check word that validates: a missing first word is recoverable. -/
theorem unique_check_word (data : List Nat) (hd : Coeffs data) :
    ∃ c0, c0 < 2048 ∧ polyCheck (c0 :: data) = true ∧ ∀ c, polyCheck (c :: data) = true → c = c0 :=
  ⟨polyEval (0 :: data), polyEval_lt _ (List.forall_mem_cons.mpr ⟨by decide, hd⟩), (polyCheck_cons_iff _ _).mpr rfl,
    fun c => (polyCheck_cons_iff c data).mp⟩

/-- the check word `gf_poly_encode` computes is that unique word. -/
theorem encode_checks (data : List Nat) : polyCheck (polyEncode (0 :: data)) = true :=
  (polyCheck_cons_iff _ data).mpr rfl

/-- more generally: a missing word at ANY position is recoverable (at most one value validates). -/
theorem unique_word_at (p : List Nat) (hp : Coeffs p) (i : Nat) (hi : i < p.length)
    (v w : Nat) (hv : v < 2048) (hw : w < 2048)
    (h1 : polyCheck (p.set i v) = true) (h2 : polyCheck (p.set i w) = true) : v = w := by
  apply Decidable.byContradiction
  intro hne
  have := single_error (p.set i v) (hp.set i hv) h1 i (by simpa using hi) w hw (by simpa using fun h => hne h.symm)
  rw [List.set_set] at this
  rw [h2] at this
  exact Bool.noConfusion this

/-- non-vacuity: the first published test vector is a valid polynomial of 16 field elements. -/
example : polyCheck [1427, 1770, 1756, 922, 820, 110, 1446, 998, 542, 1926, 1656, 1044, 842, 1392, 44, 999] = true ∧
    Coeffs [1427, 1770, 1756, 922, 820, 110, 1446, 998, 542, 1926, 1656, 1044, 842, 1392, 44, 999] := by
  constructor
  · decide
  · intro c hc; simp at hc; omega

end Polyseed.C02
