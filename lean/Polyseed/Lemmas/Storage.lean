import Polyseed.Model.Storage
import Polyseed.Lemmas.Canon
import Polyseed.Lemmas.Basic
/-! `storage.c`: `dataLoad_cases` (a seed comes exactly with the OK status; the only other status is FORMAT), `dataLoad_eq`
(the five format tests in arithmetic), and store and load are mutually inverse on well-formed data (`dataLoad_dataStore`,
`dataLoad_ok_inv`). -/
namespace Polyseed

theorem dataLoad_cases (buf : List Nat) :
    (dataLoad buf = (.format, none)) ∨ (∃ d, dataLoad buf = (.ok, some d)) := by
  -- each of the five tests leaves with the format status and no seed
  have test : ∀ {c : Prop} [Decidable c] {r : Status × Option Data}, (r = (.format, none) ∨ ∃ d, r = (.ok, some d)) →
      ((if c then (.format, none) else r) = (.format, none) ∨ ∃ d, (if c then (.format, none) else r) = (.ok, some d)) := by
    intro c _ r h; split
    · exact .inl rfl
    · exact h
  exact test (test (test (test (test (.inr ⟨_, rfl⟩)))))

theorem load16_eq (x y : Nat) (hx : x < 256) : load16 x y = x + 256 * y := by
  rw [load16, Nat.or_comm, shl_or y x 8 256 rfl hx, Nat.add_comm, Nat.mul_comm]

theorem store16_eq (x y : Nat) (hx : x < 256) (hy : y < 256) : store16 (x + 256 * y) = [x, y] := by
  rw [store16, Nat.shiftRight_eq_div_pow, show (x + 256 * y) % 256 = x by omega,
    show (x + 256 * y) / 2 ^ 8 % 256 = y by omega]

theorem store16_of_lt {u : Nat} (h : u < 65536) : store16 (u % 65536) = [u % 256, u / 256] := by
  rw [Nat.mod_eq_of_lt h, store16, Nat.shiftRight_eq_div_pow, Nat.mod_eq_of_lt (a := u / 2 ^ 8) (by omega)]

theorem store16_load16 (x y : Nat) (hx : x < 256) (hy : y < 256) : store16 (load16 x y) = [x, y] := by
  rw [load16_eq x y hx, store16_eq x y hx hy]

theorem load16_store16 (u : Nat) (h : u < 65536) : load16 (u % 256) ((u >>> 8) % 256) = u := by
  rw [load16_eq _ _ (Nat.mod_lt _ (by decide)), Nat.shiftRight_eq_div_pow]
  omega

theorem footer_or (c : Nat) (hc : c < 2048) : STORAGE_FOOTER ||| c = 0x7000 + c := or_eq_add _ _ 11 hc rfl

/-- the five fields of a 32-byte image -/
theorem dataStore_eq (d : Data) :
    dataStore d = STORAGE_HEADER ++ (store16 (((d.features <<< DATE_BITS) ||| d.birthday) % 65536)
      ++ (d.secret.take SECRET_SIZE ++ ([EXTRA_BYTE] ++ store16 ((STORAGE_FOOTER ||| d.checksum) % 65536)))) := by
  simp [dataStore, List.append_assoc]

def BytesLt (l : List Nat) : Prop := ∀ b ∈ l, b < 256

theorem BytesLt.getD_lt {l : List Nat} (h : BytesLt l) (i : Nat) : l.getD i 0 < 256 := getD_lt_of_forall h (by decide) i

theorem dataStore_bytes (d : Data) (h : BytesLt d.secret) : BytesLt (dataStore d) := by
  intro x hx
  simp only [dataStore, store16, List.mem_append, List.mem_cons, List.not_mem_nil, or_false] at hx
  rcases hx with (((hx | hx) | hx) | hx) | hx
  · revert x; decide
  · omega
  · exact h x (List.mem_of_mem_take hx)
  · rw [hx]; decide
  · omega

/-- **`polyseed_data_load` on bytes, in plain arithmetic**: the five format tests and the fields it reads.  (The feature
field has five bits, so byte 9, which holds its upper bits above two date bits, stays below 128; the footer 0x7000 is
the top five bits of byte 31: 0x70 / 8 = 14.) -/
theorem dataLoad_eq (buf : List Nat) (hb : BytesLt buf) :
    dataLoad buf =
      if buf.take 8 = [80, 79, 76, 89, 83, 69, 69, 68] ∧ buf.getD 9 0 < 128 ∧ buf.getD 28 0 < 64 ∧ buf.getD 29 0 = 255 ∧
          buf.getD 31 0 / 8 = 14 then
        (.ok, some ⟨(buf.getD 8 0 + 256 * buf.getD 9 0) % 1024, (buf.getD 8 0 + 256 * buf.getD 9 0) / 1024,
          (buf.drop 10).take 19 ++ List.replicate 13 0, (buf.getD 30 0 + 256 * buf.getD 31 0) % 2048⟩)
      else (.format, none) := by
  have hx := hb.getD_lt
  have h8 := hx 8; have h9 := hx 9; have h28 := hx 28; have h30 := hx 30; have h31 := hx 31
  -- the three tests on numbers, as `dataLoad` reads them and as the statement puts them
  have t2 : (buf.getD 8 0 + 256 * buf.getD 9 0) / 2 ^ 10 > 31 ↔ ¬ buf.getD 9 0 < 128 := by omega
  have t3 : (buf.getD 28 0 / 64 &&& 3) * 64 ≠ 0 ↔ ¬ buf.getD 28 0 < 64 := by rw [and_3]; omega
  have t5 : ((buf.getD 30 0 + 256 * buf.getD 31 0) / 2048 &&& 31) * 2048 ≠ 28672 ↔ ¬ buf.getD 31 0 / 8 = 14 := by
    rw [and_31]; omega
  simp only [dataLoad, load16_eq _ _ h8, load16_eq _ _ h30, show STORAGE_HEADER = [80, 79, 76, 89, 83, 69, 69, 68] from rfl,
    show DATE_BITS = 10 from rfl, show DATE_MASK = 1023 from rfl, show FEATURE_MASK = 31 from rfl, show 255 - CLEAR_MASK = 192 from rfl,
    show EXTRA_BYTE = 255 from rfl, show GF_MASK = 2047 from rfl, show STORAGE_FOOTER = 28672 from rfl,
    show SECRET_SIZE = 19 from rfl, show SECRET_BUFFER_SIZE - 19 = 13 from rfl, Nat.reduceSub, Nat.reducePow,
    Nat.shiftRight_eq_div_pow, and_192, and_63488, and_1023, and_2047, t2, t3, t5, ne_eq, ite_not, ite_and]

theorem dataLoad_dataStore (d : Data) (h : d.WF) : dataLoad (dataStore d) = (.ok, some d) := by
  obtain ⟨hb, hf, hc, hlen, hbytes, htop, hpad⟩ := h
  have hsec : (d.secret.take 19).length = 19 := by simp [hlen, SECRET_BUFFER_SIZE]
  rw [dataLoad_eq _ (dataStore_bytes d hbytes), dataStore_eq, shl_or _ _ DATE_BITS 1024 rfl hb, footer_or _ hc,
    store16_of_lt (by omega), store16_of_lt (by omega)]
  -- what is read at each offset of the image
  simp only [STORAGE_HEADER, EXTRA_BYTE, SECRET_SIZE, SECRET_BUFFER_SIZE, List.getD_eq_getElem?_getD,
    List.cons_append, List.nil_append, List.getElem?_cons_succ, List.getElem?_cons_zero, List.getElem?_append, hsec,
    List.take_succ_cons, List.take_zero, List.drop_succ_cons, List.drop_zero, List.take_left' hsec, List.getElem?_take,
    Nat.reduceLT, ↓reduceIte, Nat.reduceSub, Option.getD_some, Nat.mod_add_div] at htop hpad ⊢
  rw [if_pos ⟨trivial, by omega, htop, trivial, by omega⟩, ← hpad, List.take_append_drop]
  congr 3 <;> omega

theorem image_eq_fields (buf : List Nat) (h : buf.length = 32) :
    buf = buf.take 8 ++ ([buf.getD 8 0, buf.getD 9 0] ++ ((buf.drop 10).take 19 ++ ([buf.getD 29 0] ++ [buf.getD 30 0, buf.getD 31 0]))) := by
  have d1 : ∀ i, i < buf.length → buf.drop i = buf.getD i 0 :: buf.drop (i + 1) := fun i hi => by
    rw [List.drop_eq_getElem_cons hi]; simp [List.getD, hi]
  conv => lhs; rw [← List.take_append_drop 8 buf, d1 8 (by omega), d1 9 (by omega), ← List.take_append_drop 19 (buf.drop 10),
    List.drop_drop, d1 29 (by omega), d1 30 (by omega), d1 31 (by omega), List.drop_of_length_le (by omega : buf.length ≤ 31 + 1)]
  rfl

theorem dataLoad_ok_inv (buf : List Nat) (d : Data) (hlen : buf.length = 32) (hb : BytesLt buf)
    (h : dataLoad buf = (.ok, some d)) : d.WF ∧ dataStore d = buf := by
  have hx := hb.getD_lt
  have h8 := hx 8; have h9 := hx 9; have h30 := hx 30; have h31 := hx 31
  rw [dataLoad_eq buf hb] at h
  split at h <;> simp only [Prod.mk.injEq, Option.some.injEq, true_and, reduceCtorEq, false_and] at h
  rename_i c
  obtain ⟨c1, c2, c3, c4, c5⟩ := c
  subst h
  have hsl : ((buf.drop 10).take 19).length = 19 := by simp [hlen]
  refine ⟨.of_bytes (Nat.mod_lt _ (by omega)) (by omega) (Nat.mod_lt _ (by omega)) hsl
    (fun b h => hb b (List.mem_of_mem_drop (List.mem_of_mem_take h))) (by simpa [List.getD] using c3), ?_⟩
  conv => rhs; rw [image_eq_fields buf hlen]
  rw [dataStore_eq]
  simp only [show SECRET_SIZE = 19 from rfl, List.take_left' hsl, c1, c4]
  rw [shl_or _ _ DATE_BITS 1024 rfl (Nat.mod_lt _ (by omega)), footer_or _ (Nat.mod_lt _ (by omega)),
    Nat.div_add_mod',
    show 0x7000 + (buf.getD 30 0 + 256 * buf.getD 31 0) % 2048 = buf.getD 30 0 + 256 * buf.getD 31 0 by omega,
    Nat.mod_eq_of_lt (by omega), Nat.mod_eq_of_lt (by omega), store16_eq _ _ h8 h9, store16_eq _ _ h30 h31]
  rfl

end Polyseed
