import Polyseed.Lemmas.Tables
import Polyseed.Tables.Registry
import Polyseed.Pinned.Registry
import Polyseed.Tables.T0
import Polyseed.Tables.T1
import Polyseed.Tables.T2
import Polyseed.Tables.T3
import Polyseed.Tables.T4
import Polyseed.Tables.T5
import Polyseed.Tables.T6
import Polyseed.Tables.T7
import Polyseed.Tables.T8
import Polyseed.Tables.T9
/-!
# C07 — word lists are frozen, distinct and every word decodes to its own index

Everything here is about `Gen.*`, the tables the translator regenerates from the CURRENT tree on every
run; `Pinned.*` is the committed copy of the lists as published at the pinned release.
-/
namespace Polyseed.C07

/-- ten languages -/
theorem registry_length : Gen.registry.length = 10 := rfl

/-- each of the ten published languages is present with exactly the published name, flags, separator and
2048 words (registry order included) -/
theorem frozen : Gen.registry = Pinned.registry := by
  simp only [Gen.registry, Pinned.registry, Tables.T0.frozen, Tables.T1.frozen, Tables.T2.frozen, Tables.T3.frozen,
    Tables.T4.frozen, Tables.T5.frozen, Tables.T6.frozen, Tables.T7.frozen, Tables.T8.frozen, Tables.T9.frozen]

theorem passes : ∀ L ∈ Gen.registry, orderCheck L = true ∧ prefixCheck L = true ∧ findWord L [] = none :=
  fun L hL => (langChecks_iff L).mp <|
    Tables.forall_registry (P := (langChecks · = true)) Tables.T0.passes Tables.T1.passes Tables.T2.passes Tables.T3.passes
      Tables.T4.passes Tables.T5.passes Tables.T6.passes Tables.T7.passes Tables.T8.passes Tables.T9.passes L hL

theorem tables_ok : ∀ L ∈ Gen.registry, TableOK L :=
  fun L hL => tableOK_of_orderCheck L (passes L hL).1

/-- 2048 words per language -/
theorem word_count : ∀ L ∈ Gen.registry, L.words.size = 2048 := fun L hL => (tables_ok L hL).size

/-- Every word, typed in full, is recognised as its own index (and, `findWord` being a function, no other) —
through the library's own search: glibc `bsearch` with the language's comparator for the eight sorted
lists, the linear first-match loop for the two Chinese lists. -/
theorem find_full_word : ∀ L ∈ Gen.registry, ∀ i (hi : i < L.words.size), findWord L L.words[i] = some i :=
  fun L hL => (tables_ok L hL).finds

/-- the 2048 words of a language are pairwise distinct -/
theorem words_distinct : ∀ L ∈ Gen.registry, ∀ i j (hi : i < L.words.size) (hj : j < L.words.size),
    L.words[i] = L.words[j] → i = j := by
  intro L hL i j hi hj h
  have h1 := find_full_word L hL i hi
  have h2 := find_full_word L hL j hj
  rw [h] at h1
  rw [h1] at h2
  exact Option.some.inj h2

/-- words are non-empty and contain neither NUL nor a space (so tokens survive splitting) -/
theorem word_bytes : ∀ L ∈ Gen.registry, ∀ w ∈ L.words.toList, w ≠ [] ∧ ∀ b ∈ w, 0 < b ∧ b < 256 ∧ b ≠ 32 :=
  fun L hL => (tables_ok L hL).bytes

/-- In the six languages that allow abbreviation no two words share their first four accent-stripped letters. -/
theorem prefix4_distinct : ∀ L ∈ Gen.registry, L.hasPrefix = true → ∀ i j (hi : i < L.words.size) (hj : j < L.words.size),
    i < j → ∃ ci cj, prefixCode L.words[i] = some ci ∧ prefixCode L.words[j] = some cj ∧ ci ≠ cj :=
  fun L hL hp i j hi hj hij => prefix_distinct L hp (passes L hL).2.1 i j hi hj hij

/-- exactly six languages allow abbreviation: English, Spanish, French, Italian, Czech, Portuguese -/
theorem prefix_languages : Gen.registry.map (·.hasPrefix) = [true, false, false, true, true, true, true, true, false, false] := by
  decide +kernel

/-- accent-insensitive languages are composed on output (the third assertion of `polyseed_lang_check`) -/
theorem accents_imply_compose : ∀ L ∈ Gen.registry, L.hasAccents = true → L.compose = true := by
  have : Gen.registry.all (fun L => !L.hasAccents || L.compose) = true := by decide +kernel
  intro L hL ha
  simpa [ha] using List.all_eq_true.mp this L hL

/-- an empty token is recognised by no language -/
theorem empty_token : ∀ L ∈ Gen.registry, findWord L [] = none :=
  fun L hL => (passes L hL).2.2

/-- the literal clause "no word is a prefix of another" is FALSE for the published lists: witnesses
(three-letter words, which the matching rule compares exactly, so no token is ambiguous). -/
theorem prefix_word_witness_en : Gen.L0.lang.words.getD 19 [] = [97, 99, 116] ∧ Gen.L0.lang.words.getD 20 [] = [97, 99, 116, 105, 111, 110] := by
  decide_table Gen.L0.lang Gen.L0.wordsList

end Polyseed.C07
