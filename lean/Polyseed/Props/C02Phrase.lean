import Polyseed.Props.C02
import Polyseed.Lemmas.Decode
import Polyseed.Lemmas.Tables
/-!
# C02 lifted to phrases: a substituted or swapped word makes explicit decoding report the checksum status

`decodeExplicit_of_words`: decoding ANY string that normalises to 16 table words joined by single spaces is
`decodeFinish` on their indices (`decodeExplicit_tokens` at the words of a checked table).
-/
namespace Polyseed.C02

theorem decodeExplicit_of_words (cfg : Cfg) (env : Env) (lib : Lib) (L : Lang) (hT : TableOK L) (idx : List Nat)
    (hlen : idx.length = 16) (hidx : ∀ i ∈ idx, i < 2048) (s : List Nat) (coin : Nat) (w : World) (hnw : cfg.numWords = 16)
    (hs : (decompose cfg env lib s).1 = joinWords [32] (idx.map (fun i => L.words.getD i []))) :
    decodeExplicit cfg env lib s coin L w = decodeFinish cfg lib idx coin none (decompose cfg env lib s).2 w :=
  decodeExplicit_tokens cfg env lib L _ idx (by rw [List.length_map, hlen, hnw]) (words_nonempty_nospace L hT idx hidx)
    (findAll_words L hT idx hidx) s coin w hs

/-! The coin sits at position 1, whatever value stands there: `applyCoin` XORs `if k = 1 then coin else 0` onto place `k`. -/

theorem applyCoin_set (p : List Nat) (coin i v : Nat) :
    applyCoin (p.set i v) coin = (applyCoin p coin).set i (v ^^^ if i = 1 then coin else 0) := by
  rcases p with _ | ⟨c0, _ | ⟨c1, cs⟩⟩ <;> rcases i with _ | _ | i <;> simp [applyCoin]

theorem applyCoin_getElem (p : List Nat) (coin i : Nat) (hi : i < (applyCoin p coin).length) :
    (applyCoin p coin)[i] = p.getD i 0 ^^^ if i = 1 then coin else 0 := by
  simp only [applyCoin_eq_set, List.getElem_set]
  rw [applyCoin_length] at hi
  split
  · next h => subst h; simp
  · next h => simp [Ne.symm h, List.getD, hi]

theorem coinAt_lt {coin : Nat} (hcoin : coin < 2048) (i : Nat) : (if i = 1 then coin else 0) < 2048 := by
  split <;> omega

/-- **Replacing any one word of a valid phrase by any other word of the same list makes explicit decoding
report the checksum status** — never success.  `e` are the 16 word indices of the valid phrase (valid for
`coin`), `s'` any string that normalises to the phrase with word `i` replaced by word `v`. -/
theorem decodeExplicit_substituted (cfg : Cfg) (env : Env) (lib : Lib) (L : Lang) (hT : TableOK L)
    (e : List Nat) (hlen : e.length = 16) (he : ∀ x ∈ e, x < 2048) (coin : Nat) (hcoin : coin < 2048)
    (hvalid : polyCheck (applyCoin e coin) = true)
    (i v : Nat) (hi : i < 16) (hv : v < 2048) (hne : v ≠ e.getD i 0)
    (s' : List Nat) (w : World) (hnw : cfg.numWords = 16)
    (hs : (decompose cfg env lib s').1 = joinWords [32] ((e.set i v).map (fun i => L.words.getD i []))) :
    (decodeExplicit cfg env lib s' coin L w).out.status = .checksum := by
  rw [decodeExplicit_of_words cfg env lib L hT (e.set i v) (by simp [hlen]) (Coeffs.set he i hv) s' coin w hnw hs]
  have hiL : i < (applyCoin e coin).length := by rw [applyCoin_length, hlen]; exact hi
  have hchk : polyCheck (applyCoin (e.set i v) coin) = false := by
    rw [applyCoin_set e coin i v]
    refine single_error _ (applyCoin_coeffs e coin he hcoin) hvalid i hiL _
      (Nat.xor_lt_two_pow (n := 11) hv (coinAt_lt hcoin i)) fun h => hne ?_
    rw [applyCoin_getElem e coin i] at h
    exact xor_right_cancel h
  rw [decodeFinish_checksum hchk]

/-- exchanging two displayed words, whatever the coin: the coin cancels in the difference -/
theorem swap_error_coin (e : List Nat) (hlen : e.length = 16) (he : ∀ x ∈ e, x < 2048) (coin : Nat) (hcoin : coin < 2048)
    (hvalid : polyCheck (applyCoin e coin) = true) (i j : Nat) (hij : i < j) (hj : j < 16) (hne : e.getD i 0 ≠ e.getD j 0) :
    polyCheck (applyCoin (swap e i j) coin) = false := by
  have hl : (applyCoin e coin).length = 16 := by rw [applyCoin_length, hlen]
  -- the swapped display, as two substitutions on the polynomial
  unfold swap
  rw [applyCoin_set _ coin j, applyCoin_set e coin i]
  refine polyCheck_set_set _ (applyCoin_coeffs e coin he hcoin) (by omega) hvalid i j hij (by omega) _ _
    (Nat.xor_lt_two_pow (n := 11) (Coeffs.getD he j) (coinAt_lt hcoin i))
    (Nat.xor_lt_two_pow (n := 11) (Coeffs.getD he i) (coinAt_lt hcoin j)) ?_ fun h => hne ?_
  · rw [applyCoin_getElem e coin i, applyCoin_getElem e coin j, xor_xor_cancel, xor_xor_cancel,
      Nat.xor_comm]
  · rw [applyCoin_getElem e coin i] at h
    exact (xor_right_cancel h).symm

/-- **Exchanging any two unequal words of a valid phrase makes explicit decoding report the checksum status.** -/
theorem decodeExplicit_swapped (cfg : Cfg) (env : Env) (lib : Lib) (L : Lang) (hT : TableOK L)
    (e : List Nat) (hlen : e.length = 16) (he : ∀ x ∈ e, x < 2048) (coin : Nat) (hcoin : coin < 2048)
    (hvalid : polyCheck (applyCoin e coin) = true)
    (i j : Nat) (hij : i < j) (hj : j < 16) (hne : e.getD i 0 ≠ e.getD j 0)
    (s' : List Nat) (w : World) (hnw : cfg.numWords = 16)
    (hs : (decompose cfg env lib s').1 = joinWords [32] ((swap e i j).map (fun i => L.words.getD i []))) :
    (decodeExplicit cfg env lib s' coin L w).out.status = .checksum := by
  rw [decodeExplicit_of_words cfg env lib L hT (swap e i j) (by simp [swap, hlen])
    (Coeffs.set (Coeffs.set he i (Coeffs.getD he j)) j (Coeffs.getD he i)) s' coin w hnw hs]
  rw [decodeFinish_checksum (swap_error_coin e hlen he coin hcoin hvalid i j hij hj hne)]

/-- non-vacuity: the hypotheses are met by the first test vector with word 16 replaced -/
example : polyCheck (applyCoin [1427, 1770, 1756, 922, 820, 110, 1446, 998, 542, 1926, 1656, 1044, 842, 1392, 44, 999] 0) = true := by
  decide

end Polyseed.C02
